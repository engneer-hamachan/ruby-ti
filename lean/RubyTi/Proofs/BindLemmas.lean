import RubyTi.Model.Bind

/-! Positional signatures: the binding loop is a zip of arguments and parameters.
Overloads and union receivers: when the answer is `ok`. -/
namespace RubyTi.Bind
open RubyTi RubyTi.Match

def posOnly (ps : List Param) : Prop := ∀ p ∈ ps, p.kind = .pos

/-- the call fits: every argument is accepted by the parameter at its position, no argument is left
over, and every parameter without an argument has a default -/
def fitsB : List T → List Param → Bool
  | [], ps => ps.all fun p => p.t.fl.hasDefault
  | _ :: _, [] => false
  | a :: as, p :: ps => Match.checkArg p.t a && fitsB as ps

theorem fitsB_spec (as : List T) (ps : List Param) (h : fitsB as ps = true) :
    as.length ≤ ps.length ∧
      (∀ i (hi : i < as.length) (hp : i < ps.length), Match.checkArg (ps[i]).t (as[i]) = true) ∧
      ∀ i (hi : i < ps.length), as.length ≤ i → (ps[i]).t.fl.hasDefault = true := by
  induction as generalizing ps with
  | nil =>
    exact ⟨Nat.zero_le _, fun i hi => absurd hi (Nat.not_lt_zero i),
      fun i hi _ => List.all_eq_true.mp h _ (List.getElem_mem hi)⟩
  | cons a as ih =>
    cases ps with
    | nil => simp [fitsB] at h
    | cons p ps =>
      simp only [fitsB, Bool.and_eq_true] at h
      obtain ⟨hlen, hchk, hdef⟩ := ih ps h.2
      refine ⟨Nat.succ_le_succ hlen, fun i hi hp => ?_, fun i hi hle => ?_⟩
      · cases i with
        | zero => exact h.1
        | succ j => exact hchk j (Nat.lt_of_succ_lt_succ hi) (Nat.lt_of_succ_lt_succ hp)
      · cases i with
        | zero => exact absurd hle (Nat.not_succ_le_zero _)
        | succ j => exact hdef j (Nat.lt_of_succ_lt_succ hi) (Nat.le_of_succ_le_succ hle)

/-- On positional parameters the loop leaves isAsterisk alone and answers `ok` for the arguments from `idx` on
exactly when they fit, up to arguments left over (which only `bind` looks at). The arguments not yet bound are
named (`as`), so that the induction follows `fitsB` and no index arithmetic is needed. -/
theorem loop_pos (ps : List Param) (hps : posOnly ps) (args : List Arg) (ast : Bool) :
    ∀ idx as, args.drop idx = as.map Arg.pos →
      ∃ r, loop args ps idx ast = (r, ast) ∧ (r = .ok ∧ as.length ≤ ps.length ↔ fitsB as ps = true) := by
  induction ps with
  | nil =>
    intro idx as _
    exact ⟨.ok, rfl, by cases as <;> simp [fitsB]⟩
  | cons p rest ih =>
    intro idx as h
    have hk : p.kind = .pos := hps p List.mem_cons_self
    have ih := ih fun q hq => hps q (List.mem_cons_of_mem p hq)
    have hget : args[idx]? = (as.map Arg.pos).head? := by rw [← h, List.head?_drop]
    have htl : args.drop (idx + 1) = as.tail.map Arg.pos := by rw [← List.tail_drop, h, List.map_tail]
    have hkey : (PKind.pos == PKind.key) = false := rfl
    simp only [loop, hk, hget, hkey, Bool.false_and, Bool.false_eq_true, if_false]
    cases as with
    | nil =>
      obtain ⟨r, hr, hiff⟩ := ih idx [] h
      by_cases hd : p.t.fl.hasDefault = true
      · exact ⟨r, by simp [hd, hr], by simpa [fitsB, hd] using hiff⟩
      · exact ⟨.tooFew, by simp [hd], by simp [fitsB, hd]⟩
    | cons a as =>
      obtain ⟨r, hr, hiff⟩ := ih (idx + 1) as htl
      by_cases hc : Match.checkArg p.t a = true
      · exact ⟨r, by simp [hc, hr], by simpa [fitsB, hc] using hiff⟩
      · exact ⟨.mismatch, by simp [hc], by simp [fitsB, hc]⟩

/-- **positional signatures**: the call is accepted exactly when it fits -/
theorem bind_pos_ok_iff (ps : List Param) (hps : posOnly ps) (as : List T) :
    bind ps (as.map Arg.pos) = .ok ↔ fitsB as ps = true := by
  obtain ⟨r, hr, hiff⟩ := loop_pos ps hps (as.map Arg.pos) false 0 as rfl
  rw [← hiff, bind, hr]
  cases r <;> simp [Nat.not_lt]

theorem tryOverloads_ok_iff (args : List Arg) (os : List (List Param)) (last : Res) :
    tryOverloads args os last = .ok ↔ (∃ o ∈ os, bind o args = .ok) ∨ os = [] ∧ last = .ok := by
  induction os generalizing last with
  | nil => simp [tryOverloads]
  | cons o os ih =>
    by_cases ho : bind o args = .ok
    · simp [tryOverloads, ho]
    · simp [tryOverloads, ho, ih]

theorem bindClass_ok_iff (decls : List (List Param)) (args : List Arg) :
    bindClass decls args = .ok ↔ decls = [] ∨ ∃ d ∈ decls, bind d args = .ok := by
  cases decls with
  | nil => simp [bindClass]
  | cons d os =>
    -- on a non-empty list `bindClass` is `tryOverloads`, whatever the error to start from
    show tryOverloads args (d :: os) .ok = .ok ↔ _
    simp [tryOverloads_ok_iff]

theorem bindUnion_ok_iff (classes : List (List (List Param))) (args : List Arg) :
    bindUnion classes args = .ok ↔ ∀ c ∈ classes, bindClass c args = .ok := by
  induction classes with
  | nil => simp [bindUnion]
  | cons c rest ih =>
    by_cases hc : bindClass c args = .ok
    · simp [bindUnion, hc, ih]
    · simp [bindUnion, hc]

end RubyTi.Bind
