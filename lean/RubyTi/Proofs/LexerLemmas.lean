import RubyTi.Model.Lexer
/-! Helper lemmas about the lexer model: the lexer only ever drops a
prefix of the pending input, every token it builds has a kind `Read` accepts, and it gives up only at the end. -/
namespace RubyTi.Lexer
open RubyTi

/-! ### what stays pending is a suffix of what was pending -/

theorem skipSpace_suffix (l : List Rune) : (skipSpace l).2 <:+ l := List.dropWhile_suffix _
theorem skipComment_suffix (l : List Rune) : skipComment l <:+ l := List.dropWhile_suffix _
theorem toSpace_suffix (l : List Rune) : (toSpace l).2.2 <:+ l := List.dropWhile_suffix _
theorem toNotIdent_suffix (l : List Rune) : (toNotIdent l).2.2 <:+ l := List.dropWhile_suffix _

theorem lexDigit_suffix (l buf : List Rune) : (lexDigit l buf).2.2 <:+ l := by
  fun_induction lexDigit l buf <;> first | exact List.dropWhile_suffix _ | simp_all [List.suffix_cons_iff]

theorem lexIdent_suffix (cur : Rune) (l buf : List Rune) : (lexIdent cur l buf).2 <:+ l := by
  fun_induction lexIdent cur l buf <;> simp_all [List.suffix_cons_iff]

theorem lexString_suffix (start : Rune) (l buf : List Rune) : (lexString start l buf).2 <:+ l := by
  fun_induction lexString start l buf <;> simp_all [List.suffix_cons_iff]

/-- `x o b _ .`: the runes `lexDigit` tests for before it asks whether the rune is a digit -/
theorem isDigit_not_special : ∀ c ∈ [120, 111, 98, 95, 46], isDigit c = false := by decide +kernel

theorem lexDigit_first (c : Rune) (cs : List Rune) (h : isDigit c = true) :
    lexDigit (c :: cs) [] = lexDigit cs [c] := by
  have hc : c ∉ [120, 111, 98, 95, 46] := fun hm => by simp [isDigit_not_special c hm] at h
  rw [lexDigit.eq_def]; simp at hc; simp [hc, h]

/-- so on its first rune `lexIdent` does not take the `*=` exit -/
theorem isIdentChar_ne_eq {c : Rune} (h : isIdentChar c = true) : c ≠ 61 := by
  intro e; subst e; revert h; decide

theorem lexIdent_first (c : Rune) (cs : List Rune) (h : isIdentChar c = true) :
    lexIdent c (c :: cs) [] = lexIdent c cs [c] := by
  rw [lexIdent.eq_def]; simp [isIdentChar_ne_eq h, h]

theorem tail_suffix {l cs R : List Rune} {c : Rune} (hp : (skipSpace l).2 = c :: cs) (h : R <:+ cs) (b : Bool) :
    R <:+ l ∧ (b = true → R.length < l.length) :=
  have h1 : c :: cs <:+ l := hp ▸ skipSpace_suffix l
  ⟨(h.trans (List.suffix_cons c cs)).trans h1, fun _ => Nat.lt_of_le_of_lt h.length_le h1.length_le⟩

theorem suffix_cons₂ {α} (a b : α) (l : List α) : l <:+ a :: b :: l := List.suffix_append [a, b] l

theorem advance_suffix (st : LState) :
    (advance st).2.pending <:+ st.pending ∧
      ((advance st).1 = true → (advance st).2.pending.length < st.pending.length) := by
  fun_induction advance st
  -- In every branch what stays pending is a suffix of the tail `cs` behind the first rune: by the induction
  -- hypothesis where `Advance` calls itself (behind a comment together with `skipComment_suffix`), by the lemma of
  -- the sub-lexer that ran otherwise; the branches that answer false with nothing pending need no tail.
  all_goals first
    | exact tail_suffix ‹_› (List.IsSuffix.trans (And.left ‹_›) (skipComment_suffix _)) _
    | exact ⟨List.nil_suffix, (Bool.noConfusion ·)⟩
    | refine tail_suffix ‹_› ?_ _
      simp +zetaDelta only [mkIdent, List.suffix_refl, List.suffix_cons, suffix_cons₂, toSpace_suffix,
        toNotIdent_suffix, lexString_suffix, lexDigit_suffix, lexIdent_suffix, lexDigit_first, lexIdent_first, *]

/-! ### `Advance` gives up only at the end of NUL-free input -/

theorem skipSpace_head {l : List Rune} {c : Rune} {cs : List Rune} (h : (skipSpace l).2 = c :: cs) :
    isSpace c = false ∨ c = NL := by
  have := List.head?_dropWhile_not (fun c => isSpace c && c != NL) l
  rw [show l.dropWhile _ = c :: cs from h] at this
  by_cases hs : isSpace c = true <;> simp_all

/-- every rune that `isIdentifierChar` rejects by comparison is either NUL or has its own case in
`Advance` (checked against the generated tables) -/
theorem identStop_covered : ∀ c ∈ Gen.identStop, c = 0 ∨ c ∈ Gen.advanceCases.flatten := by decide +kernel

/-- Behind the white space only NUL is neither an identifier character nor a rune `Advance` has a case for:
a rune `isIdentifierChar` rejects is white space — then the newline, which has a case — or one of `identStop`. -/
theorem no_case_is_nul {l cs : List Rune} {c : Rune} (hp : (skipSpace l).2 = c :: cs) (hi : isIdentChar c = false)
    (hcase : c ∉ Gen.advanceCases.flatten) : c = 0 := by
  have hnl : NL ∈ Gen.advanceCases.flatten := by decide +kernel
  simp only [isIdentChar, Bool.not_eq_false', Bool.or_eq_true] at hi
  rcases hi with hs | hstop
  · rcases skipSpace_head hp with h1 | h1
    · rw [h1] at hs; cases hs
    · exact absurd (h1 ▸ hnl) hcase
  · exact (identStop_covered c (by simpa using hstop)).resolve_right hcase

theorem advance_false_pending (st : LState) (h0 : 0 ∉ st.pending) :
    (advance st).1 = false → (advance st).2.pending = [] := by
  fun_induction advance st
  all_goals try first | exact (Bool.noConfusion ·) | exact fun _ => rfl
  · rename_i ih
    exact ih (fun hm => h0 ((tail_suffix ‹_› List.suffix_rfl true).1.subset hm))
  · rename_i ih
    exact ih (fun hm => h0 ((tail_suffix ‹_› (skipComment_suffix _) true).1.subset hm))
  · -- the last `else` is dead: the rune would have to be NUL, which is not pending
    have hp : (skipSpace _).2 = _ :: _ := ‹_›
    have := no_case_is_nul hp (by simpa using ‹¬isIdentChar _ = true›)
      (by simp_all [Gen.advanceCases, singleCharToks, quoteChars])
    exact absurd ((hp ▸ skipSpace_suffix _).subset List.mem_cons_self) (this ▸ h0)
/-! ### every token has a kind `Read` accepts -/

/-- an identifier token always carries a non-empty name -/
def identNonEmpty (s : LState) : Prop :=
  s.tok = TOK_UNKNOWN → ∃ n, s.val = .ident n ∧ n ≠ []

/-- What `Read` needs of a token: a kind it has a case for, with the value that kind asserts, and a name when it
is an identifier. It depends on `tok` and `val` only, and `Advance` builds these in five ways. -/
def goodTok (t : Int) (v : Val) : Prop :=
  (readKind' t v).ok = true ∧ (t = TOK_UNKNOWN → ∃ n, v = .ident n ∧ n ≠ [])

theorem goodTok_ident {n : List Rune} (h : n ≠ []) : goodTok TOK_UNKNOWN (.ident n) := ⟨rfl, fun _ => ⟨n, rfl, h⟩⟩

theorem goodTok_str (s : List Rune) : goodTok TOK_STRING (.str s) := ⟨rfl, fun h => absurd h (by decide)⟩

theorem goodTok_nil (v : Val) : goodTok TOK_NIL v := ⟨rfl, fun h => absurd h (by decide)⟩

theorem goodTok_word {n : List Rune} (h : n ≠ []) :
    goodTok (if n == [110, 105, 108] then TOK_NIL else TOK_UNKNOWN) (.ident n) := by
  split
  · exact goodTok_nil _
  · exact goodTok_ident h

/-- `.` and the single-character tokens are their own rune, whatever value is left over from the token before -/
theorem goodTok_dot (v : Val) : goodTok 46 v := ⟨rfl, fun h => absurd h (by decide)⟩

theorem goodTok_single {c : Rune} (h : singleCharToks.contains c = true) (v : Val) : goodTok c v := by
  simp [singleCharToks] at h
  rcases h with rfl | rfl | rfl | rfl | rfl | rfl | rfl | rfl | rfl | rfl <;> exact ⟨rfl, fun h => absurd h (by decide)⟩

theorem goodTok_digit (l buf : List Rune) : goodTok (lexDigit l buf).1 (lexDigit l buf).2.1 := by
  have int : goodTok TOK_INT .int := ⟨rfl, fun h => absurd h (by decide)⟩
  have tok : ∀ b, goodTok (digitTok b).1 (digitTok b).2 := fun b => by
    unfold digitTok; split
    · exact int
    · exact ⟨rfl, fun h => absurd h (by decide)⟩
  fun_induction lexDigit l buf <;> first | assumption | exact int | exact tok _

theorem lexIdent_ne_nil (cur : Rune) (l buf : List Rune) (h : buf ≠ []) : (lexIdent cur l buf).1 ≠ [] := by
  fun_induction lexIdent cur l buf <;> simp_all

theorem advance_kind (st : LState) : (advance st).1 = true → goodTok (advance st).2.tok (advance st).2.val := by
  fun_induction advance st
  all_goals first
    | assumption
    | exact (Bool.noConfusion ·)
    | intro _
      simp +zetaDelta only [mkIdent, goodTok_ident, goodTok_str, goodTok_digit, goodTok_dot, goodTok_single,
        goodTok_word, lexIdent_first, lexIdent_ne_nil, ne_eq, not_false_eq_true, reduceCtorEq, *]

theorem lexAll_spec (fuel : Nat) (st : LState) (hf : st.pending.length < fuel) (h0 : 0 ∉ st.pending) :
    (lexAll fuel st).2.1 = true ∧
    (lexAll fuel st).1.length ≤ st.pending.length ∧
    (lexAll fuel st).2.2.pending = [] ∧
    ∀ t ∈ (lexAll fuel st).1, (readKind t).ok = true ∧ identNonEmpty t := by
  induction fuel generalizing st with
  | zero => omega
  | succ n ih =>
    unfold lexAll
    have hsuf := advance_suffix st
    have hk := advance_kind st
    have hf0 := advance_false_pending st h0
    rcases hadv : advance st with ⟨_ | _, st'⟩ <;> rw [hadv] at hsuf hk hf0
    · simpa using hf0 rfl
    · have hlt : st'.pending.length < st.pending.length := hsuf.2 rfl
      obtain ⟨a, b, c, d⟩ := ih { st' with isSpace := false } (Nat.lt_of_lt_of_le hlt (Nat.le_of_lt_succ hf))
        (fun hm => h0 (hsuf.1.subset hm))
      refine ⟨a, Nat.succ_le_of_lt (Nat.lt_of_le_of_lt b hlt), c, fun t ht => ?_⟩
      rcases List.mem_cons.mp ht with rfl | ht
      · exact hk rfl
      · exact d t ht

theorem tokens_spec (input : List Rune) :
    (tokens input).2.1 = true ∧
    (tokens input).1.length ≤ (input.filter (· != 0)).length ∧
    (tokens input).2.2.pending = [] ∧
    ∀ t ∈ (tokens input).1, (readKind t).ok = true ∧ identNonEmpty t :=
  lexAll_spec _ _ (Nat.lt_succ_of_le (List.length_filter_le _ _)) (by simp)

end RubyTi.Lexer
