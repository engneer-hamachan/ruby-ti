import RubyTi.Proofs.Sorting
/-! Go's string comparison on keys is the lexicographic order of `Proofs/Lex` on code points, so its order lemmas
are those; the insertion sort of the model returns a sorted permutation. -/
namespace RubyTi.Args
open RubyTi RubyTi.Lex

theorem strLt_eq_lexLt (a b : Str) : strLt a b = lexLt (a.map Char.toNat) (b.map Char.toNat) := by
  fun_induction strLt a b <;> simp [lexLt, *]

theorem strLe_eq_lexLe (a b : Str) : strLe a b = lexLe (a.map Char.toNat) (b.map Char.toNat) := by
  rw [strLe, lexLe, strLt_eq_lexLt]

theorem strLt_irrefl (a : Str) : strLt a a = false := by
  rw [strLt_eq_lexLt, lexLt_irrefl]

theorem strLt_asymm (a b : Str) (h : strLt a b = true) : strLt b a = false := by
  rw [strLt_eq_lexLt] at *; exact lexLt_asymm _ _ h

theorem strLe_antisymm (a b : Str) (h1 : strLe a b = true) (h2 : strLe b a = true) : a = b := by
  rw [strLe_eq_lexLe] at h1 h2
  exact (List.map_inj_right fun _ _ => Char.toNat_inj.mp).mp (lexLe_antisymm _ _ h1 h2)

theorem strLe_total (a b : Str) : strLe a b = true ∨ strLe b a = true := by
  simp only [strLe_eq_lexLe]; exact lexLe_total _ _

theorem strLe_trans (a b c : Str) (h1 : strLe a b = true) (h2 : strLe b c = true) : strLe a c = true := by
  rw [strLe_eq_lexLe] at *; exact lexLe_trans _ _ _ h1 h2

def leK {α} (a b : Arg α) : Prop := strLe (keyOf a) (keyOf b) = true

theorem sortByKey_perm {α} (l : List (Arg α)) : (sortByKey l).Perm l :=
  sortByKey_isSort.sort_perm l

theorem sortByKey_sorted {α} (l : List (Arg α)) : (sortByKey l).Pairwise leK :=
  sortByKey_isSort.sort_sorted (fun _ _ => strLt_asymm _ _) (fun _ _ _ => strLe_trans _ _ _) l

end RubyTi.Args

/-! what `convertArguments` emits for positional and for keyword parameters (Model/Rbs.lean) -/
namespace RubyTi.Rbs

theorem mem_positionals {ps : List Param} {d : Bool} {a : TiArgument} (h : a ∈ positionals ps d) :
    a.key = [] ∧ a.isDefault = d ∧ a.isAsterisk = false := by
  simp only [positionals, List.mem_filterMap, Option.map_eq_some_iff] at h
  obtain ⟨_, _, _, _, rfl⟩ := h
  exact ⟨rfl, rfl, rfl⟩

theorem mem_keywords {ks : List (Str × Param)} {d : Bool} {a : TiArgument} (h : a ∈ keywords ks d) :
    a.key ≠ [] ∧ a.key.getLast? = some ':' ∧ a.isDefault = d := by
  simp only [keywords, List.mem_filterMap, Option.map_eq_some_iff] at h
  obtain ⟨_, _, _, _, rfl⟩ := h
  simp
end RubyTi.Rbs
