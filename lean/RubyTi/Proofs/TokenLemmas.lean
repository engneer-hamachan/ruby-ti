import RubyTi.Proofs.LexerLemmas
import RubyTi.Model.Token
/-! Helper lemmas about the token-layer model (parser/read.go): what `getToken` returns on each of its three paths
(re-delivery after `Unget`, a fresh token, the end of input), and what `Read` and `ReadAhead` make of it. -/
namespace RubyTi.Token
open RubyTi RubyTi.Lexer

/-- the parser's current token is one `Read` can classify -/
def WF (p : PState) : Prop := (readKind' p.token p.lx.val).ok = true ∨ p.token = EOS

theorem countEOS_eq_some {p p' : PState} :
    countEOS p = some p' ↔ p.eosReads < maxEOSReads ∧ p' = { p with eosReads := p.eosReads + 1 } := by
  unfold countEOS
  split <;> simp [eq_comm] <;> omega

/-- the state in which a token is handed out again after `Unget` -/
def redeliver (p : PState) : PState := { p with ungetFlg := false, lx := { p.lx with isSpace := p.isSpacePrev } }

theorem getToken_unget {p p' : PState} (hf : p.ungetFlg = true) (h : getToken p = some p') :
    (p.token ≠ EOS ∧ p' = redeliver p) ∨
      (p.token = EOS ∧ p.eosReads < maxEOSReads ∧ p' = { redeliver p with eosReads := p.eosReads + 1 }) := by
  simp only [getToken, hf, ite_true] at h
  split at h
  · next he => exact .inr ⟨by simpa using he, countEOS_eq_some.mp h⟩
  · next he => exact .inl ⟨by simpa using he, (Option.some.inj h).symm⟩

/-- the line breaks a freshly lexed token spans: one for a newline token, those inside a string literal -/
def tokenRows (lx : LState) : Nat :=
  if lx.tok = 10 then 1
  else match lx.val with
    | .str s => if lx.tok = TOK_STRING then s.count 10 else 0
    | _ => 0

/-- the state after a fresh token `lx` has been lexed: `Row` moves past it, `ErrorRow` is the row it starts on
(a newline token leaves `ErrorRow`) -/
def deliver (p : PState) (lx : LState) : PState :=
  { p with lx := lx, token := lx.tok, row := p.row + tokenRows lx, errorRow := if lx.tok = 10 then p.errorRow else p.row }

theorem getToken_fresh {p p' : PState} (hf : p.ungetFlg = false) (ha : (advance p.lx).1 = true)
    (h : getToken p = some p') : p' = deliver p (advance p.lx).2 := by
  have hne : (10 : Int) ≠ TOK_STRING := by decide
  rw [getToken, if_neg (by simp [hf])] at h
  rcases hadv : advance p.lx with ⟨b, lx'⟩
  rw [hadv] at ha h
  cases ha
  cases h
  simp only [deliver, tokenRows]
  by_cases h10 : lx'.tok = 10 <;> cases hv : lx'.val <;> simp [h10, hne]
  split <;> simp [*]

theorem getToken_eos {p p' : PState} (hf : p.ungetFlg = false) (ha : (advance p.lx).1 = false)
    (h : getToken p = some p') :
    p.eosReads < maxEOSReads ∧ p' = { p with lx := (advance p.lx).2, token := EOS, eosReads := p.eosReads + 1 } := by
  rw [getToken, if_neg (by simp [hf])] at h
  rcases hadv : advance p.lx with ⟨b, lx'⟩
  rw [hadv] at ha h
  cases ha
  exact countEOS_eq_some.mp h

theorem getToken_wf {p p' : PState} (hw : WF p) (h : getToken p = some p') : WF p' := by
  cases hf : p.ungetFlg
  · cases ha : (advance p.lx).1
    · exact .inr (by rw [(getToken_eos hf ha h).2])
    · cases getToken_fresh hf ha h
      exact .inl (advance_kind p.lx ha).1
  · rcases getToken_unget hf h with ⟨-, rfl⟩ | ⟨he, -, rfl⟩
    · exact hw
    · exact .inr he

/-- The kinds that assert a value come with that value. `readKind'` is an if-chain of constant kinds: pushing
`· = k` into its leaves decides every branch (a `split` per `if` is about twenty times dearer to check). -/
theorem readKind'_val {t : Int} {v : Val} :
    (readKind' t v = .str → ∃ s, v = .str s) ∧ (readKind' t v = .ident → ∃ n, v = .ident n) := by
  cases v <;> simp [readKind', apply_ite (· = ReadKind.str), apply_ite (· = ReadKind.ident)]

theorem readKind'_of_eos (v : Val) : readKind' EOS v = .eos := by
  cases v <;> rfl

/-- what `Read` does to the state once the token is there: it moves the space flag -/
def afterRead (q : PState) : PState := { q with isSpacePrev := q.lx.isSpace, lx := { q.lx with isSpace := false } }

/-- `Read` is `getToken` and then one of three things, by the kind of the token: a value is built and the space flag
moved; EOS is reported; or an error is, for a token whose kind is neither accepted nor EOS. -/
theorem read_spec {bc : List (List Rune)} {p p' : PState} {o : ReadOut} (h : read bc p = some (o, p')) :
    ∃ q, getToken p = some q ∧
      (((∃ k, o = .tok k q.lx.isSpace) ∧ p' = afterRead q) ∨
       (o = .eos ∧ p' = q) ∨
       ((o = .readError ∨ o = .assertPanic) ∧ p' = q ∧ (readKind' q.token q.lx.val).ok = false ∧
          readKind' q.token q.lx.val ≠ .eos)) := by
  unfold read at h
  cases hq : getToken p with
  | none => simp [hq] at h
  | some q =>
    refine ⟨q, rfl, ?_⟩
    simp only [hq] at h
    generalize hk : readKind' q.token q.lx.val = k at h
    cases k
    case str =>
      obtain ⟨s, hs⟩ := readKind'_val.1 hk
      simp only [hs] at h
      cases h
      exact .inl ⟨⟨_, rfl⟩, by simp [afterRead, hs]⟩
    case ident =>
      obtain ⟨s, hs⟩ := readKind'_val.2 hk
      simp only [hs] at h
      cases h
      exact .inl ⟨⟨_, rfl⟩, by simp [afterRead, hs]⟩
    case eos => cases h; exact .inr (.inl ⟨rfl, rfl⟩)
    case readError => cases h; exact .inr (.inr ⟨.inl rfl, rfl, rfl, nofun⟩)
    case assertPanic => cases h; exact .inr (.inr ⟨.inr rfl, rfl, rfl, nofun⟩)
    all_goals cases h; exact .inl ⟨⟨_, rfl⟩, rfl⟩

theorem readAhead_state {bc : List (List Rune)} {p p' : PState} {o : ReadOut} (h : readAhead bc p = some (o, p')) :
    ∃ q, read bc p = some (o, q) ∧ (p' = q ∨ p' = unget q) := by
  unfold readAhead at h
  split at h <;> cases h
  · exact ⟨_, ‹_›, .inl rfl⟩
  · exact ⟨_, ‹_›, .inr rfl⟩

end RubyTi.Token
