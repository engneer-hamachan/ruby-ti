import RubyTi.Model.Match

/-! What `checkArg` decides, said through `possible` and `admits`. -/
namespace RubyTi.Match
open RubyTi Gen.Tok

theorem acceptVariant_symm (t g : T) : acceptVariant t g = acceptVariant g t := by
  unfold acceptVariant
  rw [Bool.or_comm, Bool.and_comm, BEq.comm (a := t.objectClass), BEq.comm (a := t.tag) (b := g.tag)]

theorem acceptVariant_untyped_right (p v : T) (h : v.tag = UNTYPED) : acceptVariant p v = true := by
  simp [acceptVariant, h]

theorem acceptVariant_same (w v : T) (ht : v.tag = w.tag) (hc : v.tag ≠ OBJECT ∨ v.objectClass = w.objectClass) :
    acceptVariant w v = true := by
  rw [ht] at hc
  rcases hc with hc | hc <;> simp [acceptVariant, ht, hc]

/-- if the union `a` is covered by the non-empty union `d`, every variant of `a` is admitted by `d` -/
theorem coveredBy_admits (d a : T) (hd : d.tag = UNION) (hne : d.variants ≠ []) (h : coveredBy a d = true) :
    a.variants.all (admits d) = true := by
  refine List.all_eq_true.mpr fun v hv => ?_
  have := List.all_eq_true.mp h v hv
  simp only [Bool.or_eq_true, beq_iff_eq, List.any_eq_true, Bool.and_eq_true, bne_iff_ne] at this
  simp only [admits, hd, beq_self_eq_true, if_true, List.any_eq_true]
  rcases this with hu | ⟨w, hw, ht, hc⟩
  · -- an untyped variant of `a` is accepted by any variant of `d`: here `d` must have one
    obtain ⟨p, hp⟩ := List.exists_mem_of_ne_nil _ hne
    exact ⟨p, hp, acceptVariant_untyped_right p v hu⟩
  · exact ⟨w, hw, acceptVariant_same w v ht hc⟩

theorem isMatchType_tag_ne (d a : T) (h : d.tag ≠ a.tag) : isMatchType d a = false := by
  have hk (k : Int) : ¬ (d.tag = k ∧ a.tag = k) := fun ⟨h1, h2⟩ => h (h1.trans h2.symm)
  simp [isMatchType, isUnion, h, hk]

theorem isMatchType_eq_acceptVariant (d a : T) (h : d.tag ≠ UNION) (hd : d.tag ≠ UNTYPED) (ha : a.tag ≠ UNTYPED) :
    isMatchType d a = acceptVariant d a := by
  simp [isMatchType, acceptVariant, isUnion, h, hd, ha]

theorem isMatchUnionType_all (d a : T) (hd : d.tag = UNION) :
    isMatchUnionType d a = (possible a).all (admits d) := by
  have : admits d = fun v => d.variants.any fun p => acceptVariant p v :=
    funext fun v => by simp [admits, hd]
  rw [this]
  by_cases ha : a.tag = UNION <;> simp [isMatchUnionType, possible, ha]

theorem isMatchUnionType_any (d a : T) (hd : d.tag ≠ UNION) (ha : a.tag = UNION) :
    isMatchUnionType a d = (possible a).any (admits d) := by
  have : admits d = fun v => acceptVariant v d :=
    funext fun v => by simp [admits, hd, acceptVariant_symm]
  simp [this, isMatchUnionType, possible, ha, hd]

theorem checkArg_untyped (d a : T) (h : a.tag = BLOCK ∨ d.tag = UNTYPED ∨ a.tag = UNTYPED ∨ a.tag = UNKNOWN) :
    checkArg d a = true := by
  rcases h with h | h | h | h <;> simp [checkArg, h]

/-- **the per-argument decision**: between a typed parameter and a typed argument checkArgType asks that the parameter
admit every possible value of the argument — except for a union argument against a parameter that is not a union,
where one admitted value is enough -/
theorem checkArg_typed (d a : T) (hb : a.tag ≠ BLOCK) (hau : a.tag ≠ UNTYPED) (hak : a.tag ≠ UNKNOWN)
    (hdu : d.tag ≠ UNTYPED) (hdne : d.tag = UNION → d.variants ≠ []) :
    checkArg d a =
      if d.tag ≠ UNION ∧ a.tag = UNION then (possible a).any (admits d) else (possible a).all (admits d) := by
  have hca : checkArg d a = (isMatchType d a ||
      if d.tag = UNION then isMatchUnionType d a else if a.tag = UNION then isMatchUnionType a d else false) := by
    simp [checkArg, hb, hau, hak, hdu]
  rw [hca]
  by_cases hd : d.tag = UNION
  · -- IsMatchType adds nothing to IsMatchUnionType: two unions that match cover each other
    rw [if_pos hd, if_neg (fun h => h.1 hd), isMatchUnionType_all d a hd, Bool.or_eq_right_iff_imp]
    intro hm
    by_cases ha : a.tag = UNION
    · rw [isMatchType, if_pos (by simp [isUnion, hd, ha]), Bool.and_eq_true] at hm
      simpa [possible, ha] using coveredBy_admits d a hd (hdne hd) hm.2
    · rw [isMatchType_tag_ne d a (hd ▸ Ne.symm ha)] at hm
      exact absurd hm (by decide)
  · rw [if_neg hd]
    by_cases ha : a.tag = UNION
    · rw [if_pos ha, if_pos ⟨hd, ha⟩, isMatchUnionType_any d a hd ha, isMatchType_tag_ne d a (ha ▸ hd), Bool.false_or]
    · rw [if_neg ha, if_neg (fun h => ha h.2), isMatchType_eq_acceptVariant d a hd hdu hau]
      simp [possible, admits, hd, ha]

end RubyTi.Match
