import RubyTi.Model.Inherit
/-! Helper lemmas about method resolution and the ancestor walk (base/t_frame.go, instance_method_strategy.go). -/
namespace RubyTi.C16
open RubyTi RubyTi.Frame RubyTi.Inherit

def keyOk (tbl : Methods) (method : Str) (isPrivate : Bool) (r : Option FrameKey) : Prop :=
  ∀ k, r = some k → k.targetMethod = method ∧ k.isPrivate = isPrivate ∧ has tbl k = true

section keyOk
variable {tbl : Methods} {method : Str} {isPrivate : Bool}

theorem keyOk_none : keyOk tbl method isPrivate none :=
  nofun

theorem keyOk_some {k : FrameKey} (hm : k.targetMethod = method) (hp : k.isPrivate = isPrivate) (h : has tbl k = true) :
    keyOk tbl method isPrivate (some k) := by
  rintro _ ⟨⟩
  exact ⟨hm, hp, h⟩

theorem keyOk_ordinaryKey {isStatic : Bool} {frame cls : Str}
    (h : has tbl (ordinaryKey isStatic frame cls method isPrivate) = true) :
    keyOk tbl method isPrivate (some (ordinaryKey isStatic frame cls method isPrivate)) := by
  cases isStatic
  · exact keyOk_some rfl rfl h
  · exact keyOk_some rfl rfl h

theorem keyOk_ite {c : Prop} [Decidable c] {a b : Option FrameKey}
    (ha : c → keyOk tbl method isPrivate a) (hb : keyOk tbl method isPrivate b) :
    keyOk tbl method isPrivate (if c then a else b) := by
  split
  · exact ha ‹c›
  · exact hb

/-- an answer of the first lookup is final, otherwise the second lookup answers -/
theorem keyOk_orElse {a b : Option FrameKey} :
    keyOk tbl method isPrivate a → keyOk tbl method isPrivate b →
    keyOk tbl method isPrivate (match a with | some r => some r | none => b) := by
  intro ha hb
  cases a
  · exact hb
  · exact ha

/-- The same for a walk that threads its entered-set. The type of the entered-set is written out, not left a
variable: Lean then compiles this `match` to the very function that the `match` in `walkParents` is compiled to, and
only then does the lemma apply there (two such functions are not unfolded to be compared). -/
theorem keyOk_walk_orElse {w : Option FrameKey × List (Str × Str)}
    {f : List (Str × Str) → Option FrameKey × List (Str × Str)} :
    keyOk tbl method isPrivate w.1 → (∀ s, keyOk tbl method isPrivate (f s).1) →
    keyOk tbl method isPrivate (match w with | (some r, s) => (some r, s) | (none, s) => f s).1 := by
  intro hw hf
  rcases w with ⟨_ | r, s⟩
  · exact hf s
  · exact hw

end keyOk
end RubyTi.C16

/-! The ancestor walk, read as Boolean formulas. -/
namespace RubyTi.Inherit
variable {fuel : Nat} {g : Inh} {t : Node} {seen : List Node}

theorem isAncestor_succ_fst {c : Node} :
    (isAncestor (fuel + 1) g c t seen).1 =
      (!seen.contains c && (anyAncestor fuel g (parentsOfNode g c) t (c :: seen)).1) := by
  simp only [isAncestor]
  cases seen.contains c <;> rfl

theorem anyAncestor_cons_fst {p : Node} {rest : List Node} :
    (anyAncestor fuel g (p :: rest) t seen).1 =
      (p == t || (isAncestor fuel g p t seen).1 || (anyAncestor fuel g rest t (isAncestor fuel g p t seen).2).1) := by
  simp only [anyAncestor]
  cases p == t
  · rcases isAncestor fuel g p t seen with ⟨_ | _, s⟩ <;> rfl
  · rfl

/-- a true answer of the list walk comes from a parent that is the target or from which the node walk answers
true (under whatever entered-set the walk had reached by then) -/
theorem anyAncestor_true {ps : List Node} (h : (anyAncestor fuel g ps t seen).1 = true) :
    ∃ p ∈ ps, p = t ∨ ∃ s, (isAncestor fuel g p t s).1 = true := by
  induction ps generalizing seen with
  | nil => simp [anyAncestor] at h
  | cons p rest ih =>
    rw [anyAncestor_cons_fst] at h
    simp only [Bool.or_eq_true, beq_iff_eq] at h
    rcases h with (h | h) | h
    · exact ⟨p, by simp, .inl h⟩
    · exact ⟨p, by simp, .inr ⟨seen, h⟩⟩
    · obtain ⟨q, hq, e⟩ := ih h
      exact ⟨q, List.mem_cons_of_mem _ hq, e⟩

/-- the walk from `c` goes through its first parent `d` before anything else -/
theorem isAncestor_first_parent {c d : Node} {more : List Node} (hp : parentsOfNode g c = d :: more) (hc : c ∉ seen)
    (hd : d = t ∨ (isAncestor fuel g d t (c :: seen)).1 = true) :
    (isAncestor (fuel + 1) g c t seen).1 = true := by
  rw [isAncestor_succ_fst, hp, anyAncestor_cons_fst]
  rcases hd with rfl | hd
  · simp [hc]
  · simp [hc, hd]

end RubyTi.Inherit
