import RubyTi.Model.Unify

/-! Helper lemmas about union normalisation: what `isEqualObject` and `appendVariant` do when the appended type is a
scalar, in particular on a union built by `T.makeUnion`; and the replay of a list through a step that keeps an invariant. -/
namespace RubyTi

namespace T
open Gen.Tok

theorem makeUnion_tag (vs : List T) : (makeUnion vs).tag = UNION := rfl
theorem makeUnion_variants (vs : List T) : (makeUnion vs).variants = vs := rfl
theorem makeArray_tag (vs : List T) : (makeArray vs).tag = ARRAY := rfl
theorem makeArray_variants (vs : List T) : (makeArray vs).variants = vs := rfl

end T

namespace Unify
open Gen.Tok

/-- between types of different tags only the variants are compared -/
theorem isEqualObject_of_tag_ne (t g : T) (h : t.tag ≠ g.tag) :
    isEqualObject t g = t.variants.any fun v => v.tag == g.tag && v.objectClass == g.objectClass := by
  unfold isEqualObject
  cases t.variants with
  | nil => simp [h]
  | cons => rfl

theorem appendVariant_of_scalar (fuel : Nat) (t v : T) (h1 : v.tag ≠ UNION) (h2 : v.tag ≠ HASH) (h3 : v.tag ≠ ARRAY) :
    appendVariant (fuel + 1) t v = if isEqualObject t v then t else t.setVariants (t.variants ++ [v]) := by
  unfold appendVariant
  rw [beq_false_of_ne h1, beq_false_of_ne h2, beq_false_of_ne h3]
  cases isEqualObject t v <;> rfl

/-- a scalar enters a union unless a variant already has its tag and class -/
theorem appendVariant_makeUnion (fuel : Nat) (vs : List T) (v : T) (h1 : v.tag ≠ UNION) (h2 : v.tag ≠ HASH)
    (h3 : v.tag ≠ ARRAY) :
    appendVariant (fuel + 1) (T.makeUnion vs) v =
      if vs.any fun x => x.tag == v.tag && x.objectClass == v.objectClass then T.makeUnion vs
      else T.makeUnion (vs ++ [v]) := by
  rw [appendVariant_of_scalar fuel _ v h1 h2 h3, isEqualObject_of_tag_ne (T.makeUnion vs) v (Ne.symm h1)]
  rfl

/-- `UnifyVariants` of a type that is not a hash folds its variants into an empty union: if one variant is
left, the result is that variant -/
theorem unifyVariants_single (fuel : Nat) (t x : T) (h : t.tag ≠ HASH)
    (hf : t.variants.foldl (fun acc v => appendVariant fuel acc v) (T.makeUnion []) = T.makeUnion [x]) :
    unifyVariants (fuel + 1) t = x := by
  simp [unifyVariants, h, hf, T.makeUnion_variants]

/-- if two variants are left, neither of them unknown, the result is their union -/
theorem unifyVariants_pair (fuel : Nat) (t a b : T) (h : t.tag ≠ HASH) (ha : a.tag ≠ UNKNOWN) (hb : b.tag ≠ UNKNOWN)
    (hf : t.variants.foldl (fun acc v => appendVariant fuel acc v) (T.makeUnion []) = T.makeUnion [a, b]) :
    unifyVariants (fuel + 1) t = T.makeUnion [a, b] := by
  simp [unifyVariants, h, hf, T.makeUnion_variants, ha, hb]

end Unify

/-- replaying a list through a step that keeps the invariant `P`, covers the element it is given and
keeps covering what was covered: in the end `P` holds, every element is covered, nothing was lost -/
theorem foldl_covers {σ α : Type} {step : Option σ → α → Option σ} {P : σ → Prop} {Q : α → Prop} {C : σ → α → Prop}
    (hstep : ∀ s a, Q a → P s → ∃ s', step (some s) a = some s' ∧ P s' ∧ C s' a ∧ ∀ b, C s b → C s' b)
    (l : List α) (hl : ∀ a ∈ l, Q a) (s : σ) (hs : P s) :
    ∃ s', l.foldl step (some s) = some s' ∧ P s' ∧ (∀ a ∈ l, C s' a) ∧ ∀ b, C s b → C s' b := by
  induction l generalizing s with
  | nil => exact ⟨s, rfl, hs, by simp, fun _ h => h⟩
  | cons a rest ih =>
    have ⟨ha, hrest⟩ := List.forall_mem_cons.mp hl
    obtain ⟨s1, e1, p1, c1, m1⟩ := hstep s a ha hs
    obtain ⟨s2, e2, p2, c2, m2⟩ := ih hrest s1 p1
    exact ⟨s2, by rw [List.foldl_cons, e1, e2], p2, List.forall_mem_cons.mpr ⟨m2 a c1, c2⟩, fun b hb => m2 b (m1 b hb)⟩

end RubyTi
