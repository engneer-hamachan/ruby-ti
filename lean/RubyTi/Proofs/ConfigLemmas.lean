import RubyTi.Model.Config
/-! Helper lemmas about the type-notation parser model: `plain` names, `splitOnChar` / `joinBar`, equations of
`parseTypeString` and `parseArgBase`; and about the namespace helpers `splitNS`, `calculateFrame`. -/
namespace RubyTi.Config
open RubyTi

def plainC (c : Char) : Bool :=
  c != '|' && c != '[' && c != ']' && c != '?' && c != '*' && c != ':' && !isSpaceC c

/-- a type name without notation characters -/
def plain (s : Str) : Bool := !s.isEmpty && s.all plainC

/-- "a|b|c" -/
def joinBar : List Str → Str
  | [] => []
  | [a] => a
  | a :: rest => a ++ '|' :: joinBar rest

theorem plain_iff {s : Str} : plain s = true ↔ s ≠ [] ∧ ∀ c ∈ s, plainC c = true := by
  simp [plain]

theorem plain_ne_nil {s : Str} (h : plain s = true) : s ≠ [] :=
  (plain_iff.mp h).1

theorem plain_not_mem {s : Str} (h : plain s = true) {c : Char} (hc : plainC c = false) : c ∉ s :=
  fun hm => by simp [(plain_iff.mp h).2 c hm] at hc

theorem plain_head {s : Str} (h : plain s = true) : s.head?.any plainC = true := by
  cases s with
  | nil => exact absurd rfl (plain_ne_nil h)
  | cons c t => exact (plain_iff.mp h).2 c (by simp)

theorem trimSpace_plain {s : Str} (h : plain s = true) : trimSpace s = s := by
  have hs : ∀ c ∈ s, isSpaceC c = false := fun c hc =>
    Bool.eq_false_iff.mpr fun hsp => plain_not_mem h (by simp [plainC, hsp]) hc
  have dw : ∀ l : Str, (∀ c ∈ l, isSpaceC c = false) → l.dropWhile isSpaceC = l := by
    intro l hl
    cases l with
    | nil => rfl
    | cons a t => simp [List.dropWhile, hl a]
  rw [trimSpace, dw s hs, dw s.reverse (by simpa using hs), List.reverse_reverse]

theorem splitOnChar_of_not_mem {c : Char} {s : Str} (h : c ∉ s) : splitOnChar c s = [s] := by
  induction s with
  | nil => rfl
  | cons x xs ih =>
    simp [splitOnChar, (List.ne_of_not_mem_cons h).symm, ih (List.not_mem_of_not_mem_cons h)]

theorem splitOnChar_append {c : Char} {a : Str} (rest : Str) (h : c ∉ a) :
    splitOnChar c (a ++ c :: rest) = a :: splitOnChar c rest := by
  induction a with
  | nil => simp [splitOnChar]
  | cons x xs ih =>
    simp [splitOnChar, (List.ne_of_not_mem_cons h).symm, ih (List.not_mem_of_not_mem_cons h)]

theorem splitOnChar_joinBar {parts : List Str} (hp : ∀ p ∈ parts, '|' ∉ p) (hne : parts ≠ []) :
    splitOnChar '|' (joinBar parts) = parts := by
  fun_induction joinBar parts with
  | case1 => exact absurd rfl hne
  | case2 a => exact splitOnChar_of_not_mem (hp a (by simp))
  | case3 a rest hrest ih =>
    rw [splitOnChar_append _ (hp a (by simp)), ih (fun p h => hp p (by simp [h])) (by simpa using hrest)]

theorem not_mem_joinBar {c : Char} {parts : List Str} (hc : c ≠ '|') (hp : ∀ p ∈ parts, c ∉ p) :
    c ∉ joinBar parts := by
  fun_induction joinBar parts with
  | case1 => simp
  | case2 a => exact hp a (by simp)
  | case3 a rest _ ih => simp [hc, hp a, ih fun p h => hp p (by simp [h])]

theorem plain_head_joinBar {a : Str} (rest : List Str) (ha : plain a = true) :
    (joinBar (a :: rest)).head?.any plainC = true := by
  cases a with
  | nil => exact absurd rfl (plain_ne_nil ha)
  | cons c t =>
    have hc : plainC c = true := plain_head ha
    cases rest <;> exact hc

/-- `s.head?.any plainC`: `s` starts with a plain character, so it is none of `""`, `?T`, `*T`, `[T]` -/
theorem parseTypeString_of_head {s : Str} (h : s.head?.any plainC = true) :
    parseTypeString s =
      if '|' ∈ s then T.makeUnion ((splitOnChar '|' s).map fun p => parseTypeString (trimSpace p))
      else convertToBuiltinT s := by
  cases s with
  | nil => simp at h
  | cons c tl =>
    simp [plainC] at h
    rw [parseTypeString]
    simp [h]

theorem parseTypeString_plain {s : Str} (h : plain s = true) : parseTypeString s = convertToBuiltinT s := by
  rw [parseTypeString_of_head (plain_head h), if_neg (plain_not_mem h rfl)]

theorem parseTypeString_optional {t : Str} (hne : t ≠ []) :
    parseTypeString ('?' :: t) = T.makeUnion [parseTypeString t, NilT] := by
  rw [parseTypeString]
  simp [hne]

theorem parseTypeString_array {t : Str} (hne : t ≠ []) :
    parseTypeString ('[' :: (t ++ [']'])) = T.makeArray [parseTypeString t] := by
  rw [parseTypeString]
  simp [hne]

/-- holds for `t = []` too: one equation for the second and the fourth case of `splitNS` -/
theorem splitNS_cons_ne {x : Char} (hx : x ≠ ':') (t : Str) :
    splitNS (x :: t) = match splitNS t with | [] => [[x]] | p :: ps => (x :: p) :: ps := by
  cases t with
  | nil => rfl
  | cons y r => exact splitNS.eq_4 x y r fun h _ => hx h

theorem splitNS_ne_nil (s : Str) : splitNS s ≠ [] := by
  fun_induction splitNS s <;> simp_all

theorem splitNS_noColon (s : Str) (h : ':' ∉ s) : splitNS s = [s] := by
  induction s with
  | nil => rfl
  | cons x t ih =>
    rw [splitNS_cons_ne (List.ne_of_not_mem_cons h).symm, ih (List.not_mem_of_not_mem_cons h)]

theorem splitNS_qualified (m rest : Str) (hm : ':' ∉ m) :
    splitNS (m ++ ':' :: ':' :: rest) = m :: splitNS rest := by
  induction m with
  | nil => simp [splitNS]
  | cons x t ih =>
    rw [List.cons_append, splitNS_cons_ne (List.ne_of_not_mem_cons hm).symm,
      ih (List.not_mem_of_not_mem_cons hm)]

theorem isNameSpace_noColon (s : Str) (h : ':' ∉ s) : isNameSpace s = false := by
  simp [isNameSpace, splitNS_noColon s h]

theorem calculateFrame_nil (cls : Str) : calculateFrame [] cls = cls := by
  cases cls <;> rfl

theorem calculateFrame_of_ne_nil {frame cls : Str} (hf : frame ≠ []) (hc : cls ≠ []) :
    calculateFrame frame cls = frame ++ ':' :: ':' :: cls := by
  simp [calculateFrame, hf, hc]

/-- a single type string that starts with a plain character and is not namespaced goes through
parseTypeString unchanged -/
theorem parseArgBase_single {s : Str} (h : s.head?.any plainC = true) (hns : isNameSpace s = false)
    (key : Str) (ast dflt : Bool) :
    parseArgBase { type := .single s, key := key, isAsterisk := ast, isDefault := dflt } =
      (parseTypeString s, ast) := by
  simp only [parseArgBase, TypeSpecJ.toList]
  split
  · simp at h
  · simp [plainC] at h
  · simp [plainC] at h
  · simp only [hns, Bool.false_eq_true, if_false]

theorem parseArgBase_plain {t : Str} (ht : plain t = true) (key : Str) (ast dflt : Bool) :
    parseArgBase { type := .single t, key := key, isAsterisk := ast, isDefault := dflt } =
      (convertToBuiltinT t, ast) := by
  rw [parseArgBase_single (plain_head ht) (isNameSpace_noColon _ (plain_not_mem ht rfl)), parseTypeString_plain ht]

theorem parseArgBase_optional {t : Str} (hb : '|' ∉ t) (hk : '[' ∉ t) (key : Str) (ast dflt : Bool) :
    parseArgBase { type := .single ('?' :: t), key := key, isAsterisk := ast, isDefault := dflt } =
      ((parseTypeString t).setFl fun f => { f with hasDefault := true }, ast) := by
  simp [parseArgBase, TypeSpecJ.toList, containsC, hb, hk]

theorem parseArgBase_asterisk {t : Str} (hb : '|' ∉ t) (hk : '[' ∉ t) (key : Str) (ast dflt : Bool) :
    parseArgBase { type := .single ('*' :: t), key := key, isAsterisk := ast, isDefault := dflt } =
      (parseTypeString t, true) := by
  simp [parseArgBase, TypeSpecJ.toList, containsC, hb, hk]

theorem parseArgBase_many (l : List Str) (h2 : l.length ≥ 2) (key : Str) (ast dflt : Bool) :
    parseArgBase { type := .many l, key := key, isAsterisk := ast, isDefault := dflt } =
      (T.makeUnion (l.map parseTypeString), ast) := by
  match l, h2 with
  | a :: b :: r, _ => simp [parseArgBase, TypeSpecJ.toList]

end RubyTi.Config
