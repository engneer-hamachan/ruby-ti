import RubyTi.Gen.Tokens
import RubyTi.Gen.Lexer
import RubyTi.Gen.Unicode
import RubyTi.Gen.Power

/-! Basic vocabulary shared by all models: runes are code points (`Nat`), Go's `unicode`
predicates are evaluated on the range tables extracted from the toolchain that builds /repo. -/
namespace RubyTi

abbrev Rune := Nat

def inRanges (tbl : List (Nat × Nat × Nat)) (r : Nat) : Bool :=
  tbl.any fun e => e.1 ≤ r && r ≤ e.2.1 && (r - e.1) % e.2.2 == 0

def isSpace (r : Rune) : Bool := inRanges Gen.uniSpace r
def isDigit (r : Rune) : Bool := inRanges Gen.uniDigit r
def isUpper (r : Rune) : Bool := inRanges Gen.uniUpper r
def isLower (r : Rune) : Bool := inRanges Gen.uniLower r

/-- lexer/predicate.go:isIdentifierChar -/
def isIdentChar (c : Rune) : Bool := !(isSpace c || Gen.identStop.contains c)

def NL : Rune := 10

/-- first byte of the UTF-8 encoding of a rune (Go indexes strings by byte: `str[0]`). -/
def utf8Lead (r : Rune) : Nat :=
  if r < 0x80 then r
  else if r < 0x800 then 0xC0 + r / 64
  else if r < 0x10000 then 0xE0 + r / 4096
  else 0xF0 + r / 262144

/-- `sub` occurs as a contiguous sublist of `l` (strings.Contains on rune strings). -/
def containsSub (sub : List Rune) : List Rune → Bool
  | [] => sub.isEmpty
  | l@(_ :: cs) => sub.isPrefixOf l || containsSub sub cs

end RubyTi
