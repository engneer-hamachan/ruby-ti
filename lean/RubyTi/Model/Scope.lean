import RubyTi.Model.Frame

/-!
# Model of block scoping (eval/block.go, base/t_frame.go)

`DeepCopyTFrame` takes a *shallow* snapshot of the global map when a block is entered;
`RestoreFrame` deletes every key that is not in the snapshot when the block ends; then the saved
values of the block parameters that shadowed outer variables are written back
(`makeRestoreFunc`). `setBlockParameters` binds the i-th block variable to the i-th resolved block
parameter type and surplus variables to nil. Inside the block the evaluator performs arbitrary
`SetValueT` writes, modelled as an arbitrary list of writes.
-/
namespace RubyTi.Scope
open RubyTi RubyTi.Frame

variable {κ ν : Type} [DecidableEq κ]

def hasKey (t : Table κ ν) (k : κ) : Bool := (lookup t k).isSome

/-- base.RestoreFrame(current, snapshot): delete the keys the snapshot does not have -/
def restoreFrame (cur snap : Table κ ν) : Table κ ν := cur.filter (fun e => hasKey snap e.1)

def writes (t : Table κ ν) (ws : List (κ × ν)) : Table κ ν := ws.foldl (fun acc w => insert acc w.1 w.2) t

/-- block exit: RestoreFrame, then write the shadowed outer values back -/
def blockExit (cur snap : Table κ ν) (restore : List (κ × ν)) : Table κ ν :=
  writes (restoreFrame cur snap) restore

/-- setBlockParameters: variable i gets parameter type i, surplus variables get `nilT` -/
def bindParams (t : Table κ ν) (vars : List κ) (params : List ν) (nilT : ν) : Table κ ν :=
  match vars, params with
  | [], _ => t
  | v :: vs, [] => bindParams (insert t v nilT) vs [] nilT
  | v :: vs, p :: ps => bindParams (insert t v p) vs ps nilT

/-- The loop of setBlockParameters as the extractor reads it (Gen/BlockFacts.lean): `sNil`/`bIdx` say what the
surplus / other branch binds, `sOn`/`bOn` whether the loop reaches the next variable afterwards
(`false` = `break` or `return`). When `guard` is false the loop never takes the surplus branch. -/
def bindParamsG (guard sNil sOn bIdx bOn : Bool) (t : Table κ ν) (vars : List κ) (params : List ν) (nilT : ν) : Table κ ν :=
  match vars, params with
  | [], _ => t
  | v :: vs, [] =>
    if guard then
      let t' := if sNil then insert t v nilT else t
      if sOn then bindParamsG guard sNil sOn bIdx bOn t' vs [] nilT else t'
    else t
  | v :: vs, p :: ps =>
    let t' := if bIdx then insert t v p else t
    if bOn then bindParamsG guard sNil sOn bIdx bOn t' vs ps nilT else t'

theorem bindParamsG_all (t : Table κ ν) (vars : List κ) (params : List ν) (nilT : ν) :
    bindParamsG true true true true true t vars params nilT = bindParams t vars params nilT := by
  induction vars generalizing t params with
  | nil => cases params <;> simp [bindParamsG, bindParams]
  | cons v vs ih => cases params <;> simp [bindParamsG, bindParams, ih]

theorem lookup_filter_key (t : Table κ ν) (p : κ → Bool) (k : κ) :
    lookup (t.filter (fun e => p e.1)) k = if p k then lookup t k else none := by
  induction t with
  | nil => simp [lookup]
  | cons e rest ih =>
    by_cases hp : p e.1 = true <;> by_cases hk : e.1 = k <;> simp_all [List.filter, lookup]

/-- both non-empty cases of the loop in one equation: a missing parameter type is `nilT`, and stays missing -/
theorem bindParams_cons (t : Table κ ν) (v : κ) (vs : List κ) (params : List ν) (nilT : ν) :
    bindParams t (v :: vs) params nilT = bindParams (insert t v (params.headD nilT)) vs params.tail nilT := by
  cases params <;> rfl

end RubyTi.Scope
