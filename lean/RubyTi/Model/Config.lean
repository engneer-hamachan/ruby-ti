import RubyTi.Model.T
import RubyTi.Gen.Config

/-!
# Model of builtin/json_loader.go (type notation) and builtin/defined_type.go

`parseTypeString`, `parseArguments`, `parseReturnType`, `ConvertToBuiltinT` (its table is
regenerated: `Gen.builtinNames`), plus the namespace helpers of base/strings.go they use.
JSON decoding of a `type` field (`TypeSpec.UnmarshalJSON`: a string becomes a one-element list)
is modelled by `TypeSpecJ.toList`.
-/
namespace RubyTi.Config
open RubyTi

/-- strings.Split(s, sep) for a one-character separator -/
def splitOnChar (c : Char) : Str → List Str
  | [] => [[]]
  | x :: xs =>
    if x == c then [] :: splitOnChar c xs
    else match splitOnChar c xs with
      | [] => [[x]]
      | p :: ps => (x :: p) :: ps

theorem splitOnChar_ne_nil (c : Char) (s : Str) : splitOnChar c s ≠ [] := by
  fun_induction splitOnChar c s <;> simp

/-- with the separators counted as well, the bound on a part is strict as soon as `c ∈ s` -/
theorem splitOnChar_length_add_count (c : Char) (s : Str) :
    ∀ p ∈ splitOnChar c s, p.length + s.count c ≤ s.length := by
  fun_induction splitOnChar c s with
  | case1 => simp
  | case2 x xs hx ih =>
    have := List.count_le_length (a := c) (l := xs)
    simp only [List.forall_mem_cons, List.count_cons, hx, if_true, List.length_cons, List.length_nil]
    exact ⟨by omega, fun p hp => Nat.add_le_add_right (ih p hp) 1⟩
  | case3 x xs hx h ih => exact absurd h (splitOnChar_ne_nil c xs)
  | case4 x xs hx q qs h ih =>
    simp only [h, List.forall_mem_cons] at ih
    simp only [List.forall_mem_cons, List.count_cons, hx, Bool.false_eq_true, if_false, Nat.add_zero, List.length_cons]
    exact ⟨by omega, fun p hp => Nat.le_succ_of_le (ih.2 p hp)⟩

theorem splitOnChar_lt (c : Char) (s : Str) (hc : c ∈ s) : ∀ p ∈ splitOnChar c s, p.length < s.length := by
  intro p hp
  have := splitOnChar_length_add_count c s p hp
  have := List.count_pos_iff.mpr hc
  omega

/-- strings.Split(s, "::") -/
def splitNS : Str → List Str
  | [] => [[]]
  | [x] => [[x]]
  | ':' :: ':' :: rest => [] :: splitNS rest
  | x :: y :: rest =>
    match splitNS (y :: rest) with
    | [] => [[x]]
    | p :: ps => (x :: p) :: ps

def isNameSpace (s : Str) : Bool := (splitNS s).length > 1

def joinNS : List Str → Str
  | [] => []
  | [a] => a
  | a :: rest => a ++ [':', ':'] ++ joinNS rest

/-- base.SeparateNameSpaces -/
def separateNameSpaces (s : Str) : Str × Str × Str :=
  match splitNS s with
  | [a] => ([], [], a)
  | [a, b] => ([], a, b)
  | parts =>
    let n := parts.length
    (joinNS (parts.take (n - 2)), (parts.drop (n - 2)).headD [], (parts.drop (n - 1)).headD [])

/-- base.CalculateFrame -/
def calculateFrame (frame cls : Str) : Str :=
  if frame == [] && cls == [] then []
  else if frame == [] then cls
  else if cls == [] then frame
  else frame ++ [':', ':'] ++ cls

def isSpaceC (c : Char) : Bool := isSpace c.toNat

/-- strings.TrimSpace -/
def trimSpace (s : Str) : Str := ((s.dropWhile isSpaceC).reverse.dropWhile isSpaceC).reverse

theorem trimSpace_len (s : Str) : (trimSpace s).length ≤ s.length := by
  have h1 := (List.dropWhile_suffix isSpaceC (l := s)).length_le
  have h2 := (List.dropWhile_suffix isSpaceC (l := (s.dropWhile isSpaceC).reverse)).length_le
  simp [trimSpace] at h2 ⊢; omega

/-- builtin.ConvertToBuiltinT -/
def convertToBuiltinT (name : Str) : T :=
  match Gen.builtinNames.lookup name with
  | some t => t
  | none => if (splitNS name).length > 1 then T.makeIdentifier name else T.makeObject name

def NilT : T := Gen.Builtin.NilT

/-- builtin.parseTypeString -/
def parseTypeString (s : Str) : T :=
  match hs : s with
  | [] => convertToBuiltinT []
  | c :: rest =>
    if c == '?' && rest ≠ [] then T.makeUnion [parseTypeString rest, NilT]
    else if c == '*' && rest ≠ [] then (parseTypeString rest).setFl fun f => { f with isBuiltinAsterisk := true }
    else if c == '[' && rest.length ≥ 2 && rest.getLast? == some ']' then
      T.makeArray [parseTypeString rest.dropLast]
    else if hbar : '|' ∈ s then
      T.makeUnion ((splitOnChar '|' s).attach.map fun ⟨p, hp⟩ =>
        have : (trimSpace p).length < s.length :=
          Nat.lt_of_le_of_lt (trimSpace_len p) (splitOnChar_lt '|' s hbar p hp)
        parseTypeString (trimSpace p))
    else convertToBuiltinT s
termination_by s.length
decreasing_by
  all_goals simp_wf
  · omega
  · rw [hs] at this; simpa using this

/-- a JSON `type` value: string or array of strings (`TypeSpec.UnmarshalJSON`) -/
inductive TypeSpecJ where
  | absent
  | single (s : Str)
  | many (l : List Str)
  deriving Repr

def TypeSpecJ.toList : TypeSpecJ → List Str
  | .absent => []
  | .single s => [s]
  | .many l => l

structure MethodArgument where
  type : TypeSpecJ := .absent
  key : Str := []
  isAsterisk : Bool := false
  isDefault : Bool := false
  deriving Repr

structure MethodReturn where
  type : TypeSpecJ := .absent
  isConditional : Bool := false
  isDestructive : Bool := false
  isCaptureOwner : Bool := false
  deriving Repr

/-- builtin.parseReturnType -/
def parseReturnType (r : MethodReturn) : T :=
  let t := match r.type.toList with
    | [] => NilT
    | [s] => parseTypeString s
    | l => T.makeUnion (l.map parseTypeString)
  t.setFl fun f => { f with isConditionalReturn := r.isConditional, isDestructive := r.isDestructive,
                            isCaptureOwner := r.isCaptureOwner }

def containsC (c : Char) (s : Str) : Bool := s.contains c

/-- the flag update at the end of one parseArguments iteration -/
def argFlags (ast dflt : Bool) (f : Flags) : Flags :=
  { f with isBuiltinAsterisk := ast, isBuiltin := true, hasDefault := f.hasDefault || dflt }

/-- the `switch len(arg.Type)` of parseArguments: (baseType, arg.IsAsterisk afterwards) -/
def parseArgBase (arg : MethodArgument) : T × Bool :=
  match arg.type.toList with
  | [] => (NilT, arg.isAsterisk)
  | [s] =>
    (match s with
    | [] => (T.mk 0 [] .none none [] [] [] [] {} [] [] [], arg.isAsterisk)   -- zero value of base.T
    | '*' :: rest =>
      if !containsC '|' s && !containsC '[' s then (parseTypeString rest, true)
      else (parseTypeString s, arg.isAsterisk)
    | '?' :: rest =>
      if !containsC '|' s && !containsC '[' s then
        ((parseTypeString rest).setFl fun f => { f with hasDefault := true }, arg.isAsterisk)
      else (parseTypeString s, arg.isAsterisk)
    | _ =>
      if isNameSpace s then
        let (fr, pc, cl) := separateNameSpaces s
        ((T.makeObject cl).setFrame (calculateFrame fr pc), arg.isAsterisk)
      else (parseTypeString s, arg.isAsterisk))
  | l => (T.makeUnion (l.map parseTypeString), arg.isAsterisk)

/-- one iteration of builtin.parseArguments -/
def parseArgument (arg : MethodArgument) : T :=
  let b := parseArgBase arg
  let t := b.1.setFl (argFlags b.2 arg.isDefault)
  if arg.key == [] then t else T.makeKeyValue arg.key t

def parseArguments (args : List MethodArgument) : List T := args.map parseArgument

end RubyTi.Config
