import RubyTi.Basic

/-!
# Model of lexer/lexer.go (after the `fix:` commits that add the end-of-input exits)

The model works on the *pending input*: the list of runes the reader will still deliver
(`pending = [char | ungetFlg] ++ history ++ runes[pos:]` without NUL runes; see
`Model/Reader.lean` for the concrete reader and the refinement lemmas).  `Read()` pops the
head (or yields 0 at the end), `Unread()` after a read is "do not pop", and the two
`AppendHistory` calls of `lexDigit` push the two runes just read back in front.
Every loop of lexer.go becomes a structural recursion over the pending list, so Lean's
termination checker is the proof that each loop ends at the end of input.

What is *not* modelled: `LastComment` / `LastSpecialComment` (ti-doc comments) and the numeric
value of literals (only INT vs FLOAT matters for types).
-/
namespace RubyTi.Lexer
open RubyTi
set_option linter.unusedVariables false

inductive Val where
  | none
  | int
  | float
  | str (s : List Rune)
  | ident (s : List Rune)
  deriving Repr, DecidableEq, Inhabited

/-- The lexer fields the parser can observe. `tok` uses Go's rune/const numbering. -/
structure LState where
  tok : Int := 0
  val : Val := .none
  isSpace : Bool := false
  pending : List Rune := []
  deriving Repr, DecidableEq

def TOK_INT : Int := Gen.Tok.INT
def TOK_FLOAT : Int := Gen.Tok.FLOAT
def TOK_UNKNOWN : Int := Gen.Tok.UNKNOWN
def TOK_STRING : Int := Gen.Tok.STRING
def TOK_NIL : Int := Gen.Tok.NIL

/-- skipSpace: returns (IsSpace was set, pending afterwards). The first rune sets IsSpace
even when it is a newline; the loop then skips non-newline white space. -/
def skipSpace (l : List Rune) : Bool × List Rune :=
  let first := match l with | [] => false | c :: _ => isSpace c
  let rest := l.dropWhile (fun c => isSpace c && c != NL)
  (first, rest)

/-- lexToSpaceTokenEat: runes up to (not including) the next white space; sets IsSpace when the
stop rune is white space other than newline. -/
def toSpace (l : List Rune) : List Rune × Bool × List Rune :=
  let taken := l.takeWhile (fun c => !isSpace c)
  let rest := l.dropWhile (fun c => !isSpace c)
  let sp := match rest with | [] => false | c :: _ => c != NL
  (taken, sp, rest)

/-- lexToNotIdentifierTokenEat -/
def toNotIdent (l : List Rune) : List Rune × Bool × List Rune :=
  let taken := l.takeWhile isIdentChar
  let rest := l.dropWhile isIdentChar
  let sp := match rest with | [] => false | c :: _ => c == 32
  (taken, sp, rest)

def isHexish (c : Rune) : Bool :=
  c == 120 || c == 111 || c == 98 ||
  (48 ≤ c && c ≤ 57) || (97 ≤ c && c ≤ 102) || (65 ≤ c && c ≤ 70)

/-- strconv.ParseInt(buf, 10, 64) succeeds: non-empty, ASCII digits only, value < 2^63. -/
def parsesAsInt (buf : List Rune) : Bool :=
  !buf.isEmpty && buf.all (fun c => 48 ≤ c && c ≤ 57) &&
  (buf.foldl (fun acc c => acc * 10 + (c - 48)) 0) < 9223372036854775808

def digitTok (buf : List Rune) : Int × Val :=
  if parsesAsInt buf then (TOK_INT, .int) else (TOK_FLOAT, .float)

/-- lexDigit: returns (tok, val, pending afterwards). -/
def lexDigit : List Rune → List Rune → Int × Val × List Rune
  | [], buf => let d := digitTok buf; (d.1, d.2, [])
  | c :: cs, buf =>
    if c == 120 || c == 111 || c == 98 then
      -- 0xff: Unread, lexHexDigits re-reads from `c`
      (TOK_INT, .int, (c :: cs).dropWhile isHexish)
    else if c == 95 then lexDigit cs buf
    else if c == 46 then
      match cs with
      | [] => let d := digitTok buf; (d.1, d.2, [46])   -- AppendHistory('.'), AppendHistory(0): the 0 is the end marker
      | n :: ns =>
        if !isDigit n then let d := digitTok buf; (d.1, d.2, 46 :: n :: ns)
        else lexDigit ns (buf ++ [46])                      -- the digit after '.' is dropped
    else if !isDigit c then let d := digitTok buf; (d.1, d.2, c :: cs)
    else lexDigit cs (buf ++ [c])

def colonQuote : List Rune := [58, 34]

/-- lexIdentifier(currentChar): returns (name, pending afterwards). -/
def lexIdent (cur : Rune) : List Rune → List Rune → List Rune × List Rune
  | [], buf => (buf, [])
  | c :: cs, buf =>
    if cur == 42 && c == 61 then (buf ++ [c], cs)
    else if !isIdentChar c then
      if containsSub colonQuote buf && c != NL && c != 34 && c != 0 then lexIdent cur cs (buf ++ [c])
      else (buf, c :: cs)
    else lexIdent cur cs (buf ++ [c])

/-- lexString(start): returns (contents, pending afterwards). -/
def lexString (start : Rune) : List Rune → List Rune → List Rune × List Rune
  | [], buf => (buf, [])
  | c :: cs, buf =>
    if c == start || c == 0 then (buf, cs)
    else if c == 92 then
      match cs with
      | [] => (buf ++ [0], [])
      | d :: ds => lexString start ds (buf ++ [d])
    else lexString start cs (buf ++ [c])

/-- skipLineComment: everything up to (not including) the newline. -/
def skipComment (l : List Rune) : List Rune := l.dropWhile (fun c => c != NL && c != 0)

def percentNext : List Rune := [61, 87, 119, 105, 81, 113, 114, 115, 108, 120]
def singleCharToks : List Rune := [10, 40, 41, 44, 123, 125, 91, 93, 94, 59]
def quoteChars : List Rune := [34, 39, 96]

def mkIdent (st : LState) (name : List Rune) (rest : List Rune) (sp : Bool := false) : LState :=
  { st with tok := TOK_UNKNOWN, val := .ident name, pending := rest, isSpace := st.isSpace || sp }

theorem skipSpace_length (l : List Rune) : (skipSpace l).2.length ≤ l.length :=
  (List.dropWhile_suffix _).length_le

theorem skipComment_length (l : List Rune) : (skipComment l).length ≤ l.length :=
  (List.dropWhile_suffix _).length_le

/-- One call of `Lexer.Advance` on state `st`. The Boolean is Advance's result (false = EOS); the state is
returned in both cases because Go mutates the lexer either way. -/
def advance (st : LState) : Bool × LState :=
  let ss := skipSpace st.pending
  let st := { st with isSpace := st.isSpace || ss.1 }
  match hp : ss.2 with
  | [] => (false, { st with pending := [] })
  | c :: cs =>
    if c == 60 || c == 62 then
      let r := toSpace cs
      (true, mkIdent st (c :: r.1) r.2.2 r.2.1)
    else if c == 61 then
      match cs with
      | 62 :: r => (true, mkIdent st [61, 62] r)
      | 61 :: 61 :: r => (true, mkIdent st [61, 61, 61] r)
      | 61 :: r => (true, mkIdent st [61, 61] r)
      | r => (true, mkIdent st [61] r)
    else if c == 46 then
      match cs with
      | 46 :: 46 :: r => (true, mkIdent st [46, 46, 46] r)
      | 46 :: r => (true, mkIdent st [46, 46] r)
      | r => (true, { st with tok := 46, pending := r })
    else if c == 37 then
      match cs with
      | [] => (true, mkIdent st [37] [])
      | n :: r =>
        if percentNext.contains n then (true, mkIdent st [37, n] r)
        else
          let t := toSpace (n :: r)
          (true, mkIdent st (37 :: t.1) t.2.2 t.2.1)
    else if c == 33 || c == 43 || c == 45 || c == 47 then
      match hcs : cs with
      | [] =>
        if c == 45 then
          -- `-` at the end of input: Unread; return l.Advance() which answers false
          (false, { st with pending := [] })
        else (true, mkIdent st [c] [])
      | n :: r =>
        if n == 61 then (true, mkIdent st [c, 61] r)
        else if c == 45 && n == 62 then (true, mkIdent st [45, 62] r)
        else if (c == 43 || c == 45) && isDigit n then
          let d := lexDigit (n :: r) []
          (true, { st with tok := d.1, val := d.2.1, pending := d.2.2 })
        else if c == 45 && !isSpace n then
          -- unary minus is dropped: Advance() again on what follows
          advance { st with pending := n :: r }
        else (true, mkIdent st [c] (n :: r))
    else if c == 38 then
      match cs with
      | 46 :: r => (true, mkIdent st [38, 46] r)
      | 38 :: r => (true, mkIdent st [38, 38] r)
      | r =>
        let t := toNotIdent r
        (true, mkIdent st (38 :: t.1) t.2.2 t.2.1)
    else if c == 124 then
      match cs with
      | 124 :: 61 :: r => (true, mkIdent st [124, 124, 61] r)
      | 124 :: r => (true, mkIdent st [124, 124] r)
      | 61 :: r => (true, mkIdent st [124, 61] r)
      | r => (true, mkIdent st [124] r)
    else if singleCharToks.contains c then
      (true, { st with tok := c, pending := cs })
    else if quoteChars.contains c then
      let s := lexString c cs []
      (true, { st with tok := TOK_STRING, val := .str s.1, pending := s.2 })
    else if c == 35 then
      advance { st with pending := skipComment cs }
    else if isDigit c then
      let d := lexDigit (c :: cs) []
      (true, { st with tok := d.1, val := d.2.1, pending := d.2.2 })
    else if isIdentChar c then
      let r := lexIdent c (c :: cs) []
      (true, { st with tok := if r.1 == [110, 105, 108] then TOK_NIL else TOK_UNKNOWN,
                       val := .ident r.1, pending := r.2 })
    else (false, { st with pending := cs })
termination_by st.pending.length
decreasing_by
  all_goals simp_wf
  all_goals
    have h1 := skipSpace_length st.pending
    have h2 := congrArg List.length hp
    simp [ss] at h2
  · simp [st] at h1; omega
  · have h3 := skipComment_length cs
    simp [st] at h1; omega


/-- Iterates `Advance` the way parser.Read does (IsSpace is reset after every token) until it
answers false. Returns (tokens, reached end-of-stream within the fuel, final state). -/
def lexAll : Nat → LState → List LState × Bool × LState
  | 0, st => ([], false, st)
  | fuel + 1, st =>
    match advance st with
    | (false, st') => ([], true, st')
    | (true, st') =>
      let r := lexAll fuel { st' with isSpace := false }
      (st' :: r.1, r.2.1, r.2.2)

/-- reader.New + repeated Advance on a whole input (NUL runes never reach the lexer: the reader
skips them, see `Reader.read_spec`). -/
def tokens (input : List Rune) : List LState × Bool × LState :=
  lexAll (input.length + 1) { pending := input.filter (· != 0) }

/-- What `parser.Read` does with the lexer's token: the type assertions
`Value().(int64|float64|string|Identifier)` must match and the token must have a case. -/
inductive ReadKind where
  | int | float | str | nil | single | ident | eos
  | readError            -- `default: return nil, errors.New("read error")`
  | assertPanic          -- a failed type assertion (Go runtime panic)
  deriving Repr, DecidableEq

def readKind' (tok : Int) (val : Val) : ReadKind :=
  if tok == TOK_INT then (if val == .int then .int else .assertPanic)
  else if tok == TOK_FLOAT then (if val == .float then .float else .assertPanic)
  else if tok == TOK_STRING then (match val with | .str _ => .str | _ => .assertPanic)
  else if tok == TOK_NIL then .nil
  else if tok == TOK_UNKNOWN then (match val with | .ident _ => .ident | _ => .assertPanic)
  else if tok == Gen.Tok.EOS then .eos
  else if Gen.readCases.flatten.contains tok then .single
  else .readError

def readKind (s : LState) : ReadKind := readKind' s.tok s.val

def ReadKind.ok : ReadKind → Bool
  | .readError => false
  | .assertPanic => false
  | .eos => false
  | _ => true

end RubyTi.Lexer
