import RubyTi.Model.T

/-!
# Model of `base.TFrame` as a Go map (base/t_frame.go, t_frame_key.go)

A Go map is modelled as an association list with map semantics: `insert` replaces the value of an
existing key (keeping its position) or appends; `lookup` returns the value of the key. All
observations go through `lookup`, so the position of an entry is unobservable — exactly like a Go
map. `FrameKey` has the fields of base/t_frame_key.go.
-/
namespace RubyTi.Frame
open RubyTi

structure FrameKey where
  frame : Str := []
  targetClass : Str := []
  targetMethod : Str := []
  targetVariable : Str := []
  isPrivate : Bool := false
  isStatic : Bool := false
  deriving Repr, DecidableEq

def methodKey (frame cls method : Str) (isPrivate : Bool) : FrameKey :=
  { frame := frame, targetClass := cls, targetMethod := method, isPrivate := isPrivate }

def classMethodKey (frame cls method : Str) (isPrivate : Bool) : FrameKey :=
  { frame := frame, targetClass := cls, targetMethod := method, isPrivate := isPrivate, isStatic := true }

def valueKey (frame cls method var : Str) (isStatic : Bool) : FrameKey :=
  { frame := frame, targetClass := cls, targetMethod := method, targetVariable := var, isStatic := isStatic }

abbrev Table (κ ν : Type) := List (κ × ν)

def lookup {κ ν} [DecidableEq κ] (t : Table κ ν) (k : κ) : Option ν :=
  match t with
  | [] => none
  | (k', v) :: rest => if k' = k then some v else lookup rest k

def insert {κ ν} [DecidableEq κ] (t : Table κ ν) (k : κ) (v : ν) : Table κ ν :=
  match t with
  | [] => [(k, v)]
  | (k', v') :: rest => if k' = k then (k, v) :: rest else (k', v') :: insert rest k v

def erase {κ ν} [DecidableEq κ] (t : Table κ ν) (k : κ) : Table κ ν :=
  t.filter (fun e => e.1 ≠ k)

variable {κ ν : Type} [DecidableEq κ]

theorem lookup_insert (t : Table κ ν) (k q : κ) (v : ν) :
    lookup (insert t k v) q = if k = q then some v else lookup t q := by
  fun_induction insert t k v <;> simp_all [lookup]
  split <;> split <;> simp_all

theorem lookup_insert_self (t : Table κ ν) (k : κ) (v : ν) : lookup (insert t k v) k = some v := by
  rw [lookup_insert, if_pos rfl]

theorem lookup_insert_other (t : Table κ ν) (k q : κ) (v : ν) (h : k ≠ q) :
    lookup (insert t k v) q = lookup t q := by
  rw [lookup_insert, if_neg h]

/-- A sequence of writes answers a lookup with its last write to that key, else with what was there before. -/
theorem lookup_foldl_insert (t : Table κ ν) (ws : List (κ × ν)) (k : κ) :
    lookup (ws.foldl (fun acc w => insert acc w.1 w.2) t) k =
      match ws.reverse.find? (fun w => w.1 == k) with
      | some w => some w.2
      | none => lookup t k := by
  induction ws generalizing t with
  | nil => rfl
  | cons w rest ih =>
    rw [List.foldl_cons, ih, List.reverse_cons, List.find?_append, lookup_insert]
    cases rest.reverse.find? (fun w => w.1 == k) <;> simp
    split <;> rfl

end RubyTi.Frame
