import RubyTi.Model.Frame
import RubyTi.Model.Token
import RubyTi.Props.C19
import RubyTi.Model.Namespace
import RubyTi.Gen.ClassFacts

/-!
# C20 — declarations for classes a program never mentions do not affect it

Three places could make an unmentioned configured class matter:
1. the global map: proved harmless — writes to keys a program never looks up do not change any
   of its lookups (`extra_writes_invisible`);
2. the flat list `base.BuiltinClasses` of *short* class names, consulted when an identifier
   token is classified (`IsClassIdentifier` / `IsConstIdentifier` in parser.Read) and when a
   superclass frame is chosen: proved harmless for identifiers that are not among the added short
   names (`classify_extra`), and **refuted** for a program identifier that happens to equal the
   short name of an added class in another frame (`classify_collision`): an all-capital constant
   such as `HG` becomes a class token. That is the `Frame::Name` short-name collision recorded
   as a known finding.
3. the same list consulted when a superclass frame is chosen (`class Fuga < Hoge`): after the repair
   (F60) a class the program defines itself is found lexically first, so the frame chosen for it is the
   same for EVERY list of configured short names (`own_superclass_ignores_config`); for a name the
   program does not define, adding short names other than that name changes nothing
   (`superclass_extra_names`).
-/
namespace RubyTi.C20
open RubyTi RubyTi.Frame RubyTi.Token

/-- writes to keys the program never queries are invisible to it -/
theorem extra_writes_invisible {κ ν} [DecidableEq κ] (t : Table κ ν) (extra : List (κ × ν)) (q : κ)
    (h : q ∉ extra.map (·.1)) : lookup (C19.applyWrites t extra) q = lookup t q :=
  C19.lookup_applyWrites_notin t extra q h

/-- token classification ignores added class names the identifier does not equal -/
theorem classify_extra (bc extra : List (List Rune)) (n : List Rune) (h : n ∉ extra) :
    classify (bc ++ extra) n = classify bc n := by
  simp [classify, isClassIdent, isConstIdent, h]

/-- the refuted full statement: an identifier equal to the short name of an added class changes kind -/
theorem classify_collision :
    ∃ (bc extra : List (List Rune)) (n : List Rune), classify (bc ++ extra) n ≠ classify bc n :=
  ⟨[], [[72, 71]], [72, 71], by decide⟩

example : ([72, 71] : List Rune) ∉ ([[66, 97, 115, 101]] : List (List Rune)) := by decide


open RubyTi.Namespace in
/-- **The program's own class wins**: if the superclass name is unqualified and the program defines a class
of that name lexically (in an enclosing namespace or at top level), the frame chosen for it does not
depend on the configured short names at all. -/
theorem own_superclass_ignores_config (tbl : Defined) (bc₁ bc₂ builtin ctxFrame qualified : List Str) (noNs : Bool) (cls : Str)
    (hown : (lookupDefined tbl cls ctxFrame).2 = true) :
    superclassFrame tbl bc₁ builtin ctxFrame true noNs qualified cls =
    superclassFrame tbl bc₂ builtin ctxFrame true noNs qualified cls := by
  simp [superclassFrame, hown]

open RubyTi.Namespace in
/-- for any superclass name: configured classes with OTHER short names do not change the chosen frame -/
theorem superclass_extra_names (tbl : Defined) (bc extra builtin ctxFrame qualified : List Str) (unq noNs : Bool) (cls : Str)
    (h : cls ∉ extra) :
    superclassFrame tbl (bc ++ extra) builtin ctxFrame unq noNs qualified cls =
    superclassFrame tbl bc builtin ctxFrame unq noNs qualified cls := by
  have : (bc ++ extra).contains cls = bc.contains cls := by
    simp [List.contains_eq_mem, List.mem_append, h]
  unfold superclassFrame
  rw [this]

/-- The shape of the two places that consult the flat list besides token classification, as the source has them
now: the superclass choice tests `isOwnClass` (taken from `LookupDefinedClassFrame`) before redirecting to frame
Builtin and otherwise looks the name up lexically — the shape `superclassFrame` models —, and both include/extend
redirects test the edge's own frame and exclude names the program defines at top level — what the `lookup` stream's
model assumes. -/
theorem class_list_guards :
    Gen.superclassOwnClassGuard = true ∧ Gen.parentRedirects = 2 ∧ Gen.parentRedirectsGuarded = Gen.parentRedirects := by decide

open RubyTi.Namespace in
/-- non-vacuity: `class Fuga < Hoge` at top level with the program's own `Hoge`, with and without a configured `Gui::Hoge` -/
example :
    let tbl : Defined := [([], "Hoge".toList)]
    (lookupDefined tbl "Hoge".toList []).2 = true ∧
    superclassFrame tbl ["Hoge".toList] ["Builtin".toList] [] true true [] "Hoge".toList = [] ∧
    superclassFrame tbl [] ["Builtin".toList] [] true true [] "Hoge".toList = [] := by decide

end RubyTi.C20
