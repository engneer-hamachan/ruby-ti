import RubyTi.Model.C2json

/-!
# C26 — c2json signatures accept exactly the argument counts the C binding accepts

On the abstract definition (macros of the spec as extracted, format string of `mrb_get_args`):
`tiAccepts (infer d) k = cAccepts d k` for every definition and every `k`. The extraction of the
spec from C text (regular expressions; repaired by a `fix:` commit so that a `|`-combination is
captured whole) and ti's arity rule itself are validated end-to-end. Determinism: `inferArguments`
ranges over a map only in the GET_*_ARG path to compute a maximum (order-insensitive; reviewed in
C05's map-range table).
-/
namespace RubyTi.C26
open RubyTi.C2json

theorem count_replicate_self (n : Nat) (a : TiArg) : (List.replicate n a).count a = n := by
  simp

theorem inferFormat_req_opt (f : List Fmt) (opt : Bool) :
    (inferFormat f opt).count TiArg.required + (inferFormat f opt).count TiArg.optional = fmtVals f := by
  fun_induction inferFormat f opt with
  | case2 r opt ih => cases opt <;> simp [fmtVals] at ih ⊢ <;> omega
  | _ => simp_all [fmtVals]

theorem inferFormat_rest (f : List Fmt) (opt : Bool) :
    (inferFormat f opt).contains TiArg.rest = f.contains Fmt.star := by
  fun_induction inferFormat f opt with
  | case2 r opt ih => cases opt <;> simp_all
  | _ => simp_all

theorem inferFormat_opt_noreq (f : List Fmt) : (inferFormat f true).count TiArg.required = 0 := by
  induction f with
  | nil => rfl
  | cons c r ih => cases c <;> simp [inferFormat, ih]

theorem inferFormat_required (f : List Fmt) :
    (inferFormat f false).count TiArg.required = fmtReq f := by
  induction f with
  | nil => rfl
  | cons c r ih => cases c <;> simp [inferFormat, fmtReq, ih, inferFormat_opt_noreq]

/-- **Arity**: the generated configuration accepts `k` arguments exactly when the C definition does. -/
theorem c2j_arity (d : CDef) (k : Nat) : tiAccepts (infer d) k = cAccepts d k := by
  unfold infer cAccepts
  split
  · cases k <;> simp [tiAccepts]
  split
  · simp [tiAccepts]
  split
  · simp only [tiAccepts]
    rw [inferFormat_req_opt, inferFormat_required, inferFormat_rest]
  · simp [tiAccepts, List.count_replicate, apply_ite (List.count _), apply_ite (TiArg.rest ∈ ·), Nat.add_right_comm]

/-- non-vacuity / the repaired witness: REQ(1)|REST() accepts 1, 2, 3 … arguments and rejects 0 -/
example : (List.range 5).map (tiAccepts (infer { spec := { req := 1, rest := true } })) = [false, true, true, true, true] := by decide

example : (List.range 5).map (tiAccepts (infer { format := some [.val, .bar, .val, .amp] })) = [false, true, true, false, false] := by decide

end RubyTi.C26
