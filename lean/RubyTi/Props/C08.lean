import RubyTi.Proofs.MatchLemmas
import RubyTi.Proofs.BindLemmas

/-!
# C08 — no false alarms on calls that certainly fit (with C07: the per-argument decision, checkArgType, against the statements' reference notions)

For every declared parameter type `d` and argument type `a` (any tags, classes, variant lists):
* `fits_accepted` (C08): if every possible value of `a` is admitted by `d` — a union argument
  whose variants are all accepted counts as fitting — then checkArgType reports nothing;
* `C07.rejected_reported`: if every possible value of `a` is rejected by `d`, the argument is
  not a block / untyped / unknown, `d` is not untyped and a union parameter has at least one variant,
  then checkArgType reports a mismatch.
Both were false before the `fix:` commits on IsMatchUnionType / IsMatchType (witnesses in
known_findings.jsonl F35/F36: `Integer|String` against `Int|String|Symbol`; `Foo` against `GPIO|String`;
`Union<Foo String>` against `Union<Bar String>`).
`fitting_call_accepted`: on the model of the binding loop (`Model/Bind.lean`, tied by the `bind`
stream), for every positional signature and every list of positional arguments: if the count is
accepted (no argument is left over, every parameter without an argument has a default) and every
possible value of every argument is admitted by the parameter at its position, the call is accepted.
`union_fitting_call_accepted`: on the model of the union-receiver check (`Bind.bindUnion`, tied by the `bindu` stream)
a call is accepted when every class of the receiver has a declaration, the first one or an overload, that accepts it.
Rest and keyword parameters and receiver lookup are checked by the `bind`, `prio` and `lookup` streams and end-to-end.
-/
namespace RubyTi.C08
open RubyTi RubyTi.Match Gen.Tok

/-- **C08, per argument**: an argument all of whose possible values are admitted is not reported -/
theorem fits_accepted (d a : T) (hne : possible a ≠ [])
    (h : ∀ v ∈ possible a, admits d v = true) : checkArg d a = true := by
  obtain ⟨v, hv⟩ := List.exists_mem_of_ne_nil _ hne
  by_cases hu : a.tag = BLOCK ∨ d.tag = UNTYPED ∨ a.tag = UNTYPED ∨ a.tag = UNKNOWN
  · exact checkArg_untyped d a hu
  · simp only [not_or] at hu
    obtain ⟨hb, hdu, hau, hak⟩ := hu
    -- a union parameter that admits `v` has a variant
    have hdne : d.tag = UNION → d.variants ≠ [] := fun hd hnil => absurd (h v hv) (by simp [admits, hd, hnil])
    rw [checkArg_typed d a hb hau hak hdu hdne]
    split
    · exact List.any_eq_true.mpr ⟨v, hv, h v hv⟩
    · exact List.all_eq_true.mpr h

/-- non-vacuity: `Integer|String` against `Int|String|Symbol` (the witness that used to be rejected) -/
example : checkArg (T.makeUnion [T.makeAnyInt, T.makeAnyString, T.makeAnySymbol]) (T.makeUnion [T.makeAnyInt, T.makeAnyString]) = true := by decide

/-! ## counts and binding (positional signatures) -/
section
open RubyTi.Bind

/-- the statement's "certainly fits" for a positional signature -/
def CertainlyFits : List T → List Param → Prop
  | [], ps => ∀ p ∈ ps, p.t.fl.hasDefault = true
  | _ :: _, [] => False
  | a :: as, p :: ps => possible a ≠ [] ∧ (∀ v ∈ possible a, admits p.t v = true) ∧ CertainlyFits as ps

theorem certainlyFits_fitsB (as : List T) (ps : List Param) (h : CertainlyFits as ps) : fitsB as ps = true := by
  induction as generalizing ps with
  | nil =>
    simp only [fitsB]
    exact List.all_eq_true.mpr (fun p hp => h p hp)
  | cons a rest ih =>
    cases ps with
    | nil => exact absurd h (by simp [CertainlyFits])
    | cons p ps' =>
      simp only [CertainlyFits] at h
      simp only [fitsB, Bool.and_eq_true]
      exact ⟨fits_accepted p.t a h.1 h.2.1, ih ps' h.2.2⟩

/-- **a call that certainly fits a positional signature is accepted** -/
theorem fitting_call_accepted (ps : List Param) (hps : posOnly ps) (as : List T) (h : CertainlyFits as ps) :
    bind ps (as.map Arg.pos) = .ok :=
  (bind_pos_ok_iff ps hps as).mpr (certainlyFits_fitsB as ps h)

/-- non-vacuity: `m(Int|String|Symbol, Int = default)` with an `Integer|String` argument -/
example :
    let ps : List Param := [{ kind := .pos, t := T.makeUnion [T.makeAnyInt, T.makeAnyString, T.makeAnySymbol] },
                            { kind := .pos, t := T.makeBuiltinDefaultInt }]
    bind ps ([T.makeUnion [T.makeAnyInt, T.makeAnyString]].map Arg.pos) = .ok := by decide
theorem tryOverloads_accepted (args : List Arg) (os : List (List Param)) (last : Res)
    (h : ∃ o ∈ os, RubyTi.Bind.bind o args = .ok) : tryOverloads args os last = .ok :=
  (tryOverloads_ok_iff args os last).mpr (.inl h)

theorem bindClass_accepted (decls : List (List Param)) (args : List Arg)
    (h : ∃ d ∈ decls, RubyTi.Bind.bind d args = .ok) : bindClass decls args = .ok :=
  (bindClass_ok_iff decls args).mpr (.inr h)

/-- **No false alarm on a union receiver**: when every class of the receiver has a declaration (the first one or
an overload) that accepts the arguments, the call is accepted — for any number of classes and overloads. -/
theorem union_fitting_call_accepted (classes : List (List (List Param))) (args : List Arg)
    (h : ∀ c ∈ classes, ∃ d ∈ c, RubyTi.Bind.bind d args = .ok) : bindUnion classes args = .ok :=
  (bindUnion_ok_iff classes args).mpr fun c hc => bindClass_accepted c args (h c hc)

end

end RubyTi.C08
