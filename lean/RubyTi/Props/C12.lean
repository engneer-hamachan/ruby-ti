import RubyTi.Model.Analysis
import RubyTi.Gen.ClassFacts

/-!
# C12 — analysing a program never alters configured builtin signatures

On the table model of the analysis (`Model/Analysis.lean`), for EVERY initial table, every sequence
of operations of a program that does not reopen builtin classes (any writes outside the Builtin
frame, any calls of configured methods with any receivers and arguments):
* `builtin_invariant`: every entry of the Builtin frame — method types with their return type and
  flags, declared parameter types, overload lists — is exactly what it was before;
* `probe_independent`: the type computed for a configured call on given receiver and argument
  types is the same after the program as in the initial table (`z = 2 * w` alone or last).
The Go analyser used to violate the model's premise in three ways, each repaired by a `fix:`
commit and now checked on every run by the `analyze` op: a union receiver accumulated its return
type in the shared method `T` (`x * q` with `x : String|Integer` made every later `2 * w`
`Integer|Float|String`), `OptionalUnify` appended to its receiver, and binding a rest parameter of
a configured method overwrote the declared parameter type.
-/
namespace RubyTi.C12
open RubyTi RubyTi.Frame RubyTi.Analysis

theorem step_builtin (s : Store) (op : Op) (h : userOp op = true) (k : FrameKey) (hk : isBuiltinKey k = true) :
    lookup (step s op).1 k = lookup s k := by
  cases op with
  | write k' v => exact lookup_insert_other _ _ _ _ (fun e => by simp [userOp, e, hk] at h)
  | call k' recv args => simp only [step]; split <;> rfl

/-- **the Builtin frame is invariant under the analysis of any such program** -/
theorem builtin_invariant (s : Store) (ops : List Op) (h : ops.all userOp = true) (k : FrameKey)
    (hk : isBuiltinKey k = true) : lookup (run s ops) k = lookup s k := by
  induction ops generalizing s with
  | nil => rfl
  | cons op rest ih =>
    rw [List.all_cons, Bool.and_eq_true] at h
    exact (ih _ h.2).trans (step_builtin s op h.1 k hk)

/-- the result of a configured call does not depend on what was analysed before it -/
theorem probe_independent (s : Store) (ops : List Op) (h : ops.all userOp = true) (k : FrameKey)
    (hk : isBuiltinKey k = true) (recv : T) (args : List T) :
    (step (run s ops) (.call k recv args)).2 = (step s (.call k recv args)).2 := by
  simp only [step, builtin_invariant s ops h k hk]
  cases lookup s k <;> rfl

/-- non-vacuity: a store with `Integer#*`, a user assignment and a union-receiver call -/
example :
    let k : FrameKey := methodKey BUILTIN "Integer".toList "*".toList false
    let s : Store := [(k, (T.makeUnion [T.makeAnyInt, T.makeAnyFloat]).setMethod BUILTIN "*".toList [])]
    let ops := [Op.write (valueKey [] [] [] "x".toList false) T.makeAnyString, Op.call k T.makeAnyString [T.makeAnyInt]]
    ops.all userOp = true ∧ isBuiltinKey k = true ∧ (lookup (run s ops) k).isSome = true := by decide

/-- One of the places where the analysis of USER code handles a configured entry: a class without `initialize`
inherits its ancestor's `new` (for `class Stack < Array` the configured `Array.new`). The source copies that
entry before it retargets it to the subclass (regenerated fact), so the write is a user-frame write in the sense
of `userOp` and the configured entry stays as declared. -/
theorem inherited_new_is_copied : Gen.classNewCopiedBeforeRetarget = true := by decide

end RubyTi.C12
