import RubyTi.Proofs.ConfigLemmas
import RubyTi.Model.Frame
import RubyTi.Props.C19
import RubyTi.Model.Namespace

/-!
# C27 — same-named classes in different namespaces do not interfere (key algebra)

Everything the analysis knows about a class lives under keys `(frame, class, …)` of the global
maps, where the frame of `module M … class C` is computed by `SeparateNameSpaces` /
`CalculateFrame` (base/strings.go, base/t_frame.go). Proved on their models:
* `qualified_name_splits`: `M::C` (plain `M`, `C`) splits into namespace `M` and class `C`, and
  `A::B::C` into frame `A`, parent `B`, class `C`, whose computed frame is `A::B`;
* `frames_differ`: for plain `M ≠ N` the frames of `M::C` and `N::C` (and of top-level `C`) are
  different, hence every key of the one class group differs from every key of the other;
* `decoy_invisible`: writes under the decoy's frame leave every lookup under the group's frame
  unchanged (C19's map lemma specialised to frames).
* `superclass_innermost` / `superclass_defined` / `superclass_self`: the lexical lookup of an
  unqualified superclass (`FindDefinedClassFrame`) returns an enclosing namespace in which the
  class is defined, at least as inner as ANY enclosing namespace that defines it (a same-named
  class further out never wins), the class's own namespace when it is defined there, and the top
  level only when no enclosing namespace defines it.
How the class/module evaluators use these functions is checked end-to-end: a generated class
group at top level, wrapped in one or two modules, and next to a same-named decoy.
-/
namespace RubyTi.C27
open RubyTi RubyTi.Config RubyTi.Frame

def plainName (s : Str) : Prop := s ≠ [] ∧ ':' ∉ s

theorem splitNS_plain (s : Str) (h : ':' ∉ s) : splitNS s = [s] := splitNS_noColon s h

/-- `M::C` is namespace `M`, class `C`; its frame is `M` -/
theorem qualified_name_splits (m c : Str) (hm : plainName m) (hc : plainName c) :
    separateNameSpaces (m ++ ':' :: ':' :: c) = ([], m, c) ∧ calculateFrame [] m = m := by
  constructor
  · simp [separateNameSpaces, splitNS_qualified m c hm.2, splitNS_plain c hc.2]
  · exact calculateFrame_nil m

/-- `A::B::C`: frame `A`, parent namespace `B`, class `C`; the computed frame is `A::B` -/
theorem nested_name_splits (a b c : Str) (ha : plainName a) (hb : plainName b) (hc : plainName c) :
    separateNameSpaces (a ++ ':' :: ':' :: (b ++ ':' :: ':' :: c)) = (a, b, c) ∧
    calculateFrame a b = a ++ ':' :: ':' :: b := by
  constructor
  · simp [separateNameSpaces, splitNS_qualified a _ ha.2, splitNS_qualified b c hb.2, splitNS_plain c hc.2, joinNS]
  · exact calculateFrame_of_ne_nil ha.1 hb.1

/-- different wrapping modules give different frames; a top-level class (frame "") differs from both -/
theorem frames_differ (m n : Str) (hm : plainName m) (hn : plainName n) (hne : m ≠ n) :
    calculateFrame [] m ≠ calculateFrame [] n ∧ calculateFrame [] m ≠ [] := by
  rw [calculateFrame_nil, calculateFrame_nil]
  exact ⟨hne, hm.1⟩

/-- keys of same-named classes in different frames are different keys -/
theorem keys_differ (f₁ f₂ cls method : Str) (p s : Bool) (h : f₁ ≠ f₂) :
    methodKey f₁ cls method p ≠ methodKey f₂ cls method p ∧ classMethodKey f₁ cls method p ≠ classMethodKey f₂ cls method p ∧
    ∀ v, valueKey f₁ cls method v s ≠ valueKey f₂ cls method v s :=
  ⟨fun e => h (congrArg FrameKey.frame e), fun e => h (congrArg FrameKey.frame e),
    fun _ e => h (congrArg FrameKey.frame e)⟩

/-- the decoy's writes (all under another frame) are invisible to lookups under the group's frame -/
theorem decoy_invisible {ν} (t : Table FrameKey ν) (decoy : List (FrameKey × ν)) (fd : Str)
    (hd : ∀ w ∈ decoy, w.1.frame = fd) (q : FrameKey) (hq : q.frame ≠ fd) :
    lookup (C19.applyWrites t decoy) q = lookup t q := by
  apply C19.lookup_applyWrites_notin
  intro hmem
  obtain ⟨w, hw, rfl⟩ := List.mem_map.mp hmem
  exact hq (hd w hw)

example : plainName "Mm".toList ∧ "Mm".toList ≠ "Nn".toList := by
  unfold plainName
  decide +kernel

/-! ## lexical superclass lookup -/
section
open RubyTi.Namespace

theorem superclass_suffix (tbl : Defined) (cls : Str) (segs : List Str) :
    findDefined tbl cls segs <:+ segs := by
  induction segs with
  | nil => simp [findDefined]
  | cons s outer ih =>
    simp only [findDefined]
    split
    · exact List.suffix_refl _
    · exact List.IsSuffix.trans ih (List.suffix_cons s outer)

/-- a non-top-level answer is a namespace in which the class is defined -/
theorem superclass_defined (tbl : Defined) (cls : Str) (segs : List Str)
    (h : findDefined tbl cls segs ≠ []) : isDefined tbl (findDefined tbl cls segs) cls = true := by
  induction segs with
  | nil => simp [findDefined] at h
  | cons s outer ih =>
    simp only [findDefined] at h ⊢
    split
    · assumption
    · rename_i hn; simp only [hn] at h; exact ih (by simpa using h)

/-- **innermost wins**: every enclosing namespace `p` that defines the class encloses the answer -/
theorem superclass_innermost (tbl : Defined) (cls : Str) (segs p : List Str)
    (hp : p <:+ segs) (hne : p ≠ []) (hd : isDefined tbl p cls = true) :
    p <:+ findDefined tbl cls segs := by
  induction segs with
  | nil => simp at hp; exact absurd hp hne
  | cons s outer ih =>
    simp only [findDefined]
    split
    · exact hp
    · rename_i hn
      rcases List.suffix_cons_iff.mp hp with rfl | h
      · simp [hd] at hn
      · exact ih h

theorem superclass_self (tbl : Defined) (cls : Str) (segs : List Str) (hne : segs ≠ [])
    (hd : isDefined tbl segs cls = true) : findDefined tbl cls segs = segs := by
  cases segs with
  | nil => exact absurd rfl hne
  | cons s outer => simp [findDefined, hd]

/-- the top level is answered only when no enclosing namespace defines the class -/
theorem superclass_toplevel (tbl : Defined) (cls : Str) (segs : List Str)
    (h : findDefined tbl cls segs = []) : ∀ p, p <:+ segs → p ≠ [] → isDefined tbl p cls = false := by
  intro p hp hne
  cases hd : isDefined tbl p cls with
  | false => rfl
  | true =>
    have := superclass_innermost tbl cls segs p hp hne hd
    rw [h] at this
    simp at this
    exact absurd this hne

/-- non-vacuity: `Core` defined in `Api` and in `Api::V1`; seen from `Api::V1` the inner one is found -/
example : findDefined [(["Api".toList], "Core".toList), (["V1".toList, "Api".toList], "Core".toList)] "Core".toList
    ["V1".toList, "Api".toList] = ["V1".toList, "Api".toList] := by decide +kernel
end

end RubyTi.C27
