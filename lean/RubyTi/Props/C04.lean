import RubyTi.Props.C01
import RubyTi.Props.C02

/-!
# C04 — editor query modes never crash or hang, whatever row is asked about

The requested row only selects *which* value the parser captures (`ErrorRow = LspTargetRow` in
`SetLastEvaluatedT`); the analysis that runs is the same as without the flag. What can be carried
by the model is therefore what C01/C02 carry — restated here so that the C04 check re-checks it —
plus the row bookkeeping fact that makes "any row" harmless: `ErrorRow` only ever takes values of
`Row`, which starts at 1 and never decreases, so a target row ≤ 0 or past the end captures nothing.
-/
namespace RubyTi.C04
open RubyTi RubyTi.Lexer RubyTi.Token

/-- rows never decrease and ErrorRow never overtakes Row -/
theorem rows_monotone {p p' : PState} (h : getToken p = some p') (hinv : p.errorRow ≤ p.row) :
    p.row ≤ p'.row ∧ p'.errorRow ≤ p'.row ∧ (p'.errorRow = p.errorRow ∨ p'.errorRow = p.row) := by
  cases hf : p.ungetFlg
  · cases ha : (advance p.lx).1
    · simp [(getToken_eos hf ha h).2]; omega
    · cases getToken_fresh hf ha h
      simp only [deliver]
      split <;> omega
  · rcases getToken_unget hf h with ⟨-, rfl⟩ | ⟨-, -, rfl⟩ <;> simp [redeliver] <;> omega

/-- the token layer under the query modes is the one of C01: it never errs -/
theorem read_total (bc : List (List Rune)) {p p' : PState} {o : ReadOut} (hw : WF p)
    (h : Token.read bc p = some (o, p')) :
    (match o with | .readError => False | .assertPanic => False | _ => True) ∧ WF p' :=
  C01.read_never_errors bc hw h

/-- and every client call sequence is bounded as in C02 -/
theorem requests_bounded (bc : List (List Rune)) (ops : List C02.Op) (p p' : PState)
    (hb : p.eosReads ≤ maxEOSReads) (h : C02.run bc ops p = some p') :
    (ops.filter C02.Op.isRequest).length ≤ C02.phi p + (ops.map C02.Op.ungets).sum :=
  C02.requests_bounded bc ops p p' hb h

theorem predicates_nil_safe :
    ∀ g ∈ Gen.nilGuards, g.2.1 = true → g.2.2 = true ∨ g.1 ∈ C01.reviewedUnguarded :=
  C01.predicates_nil_safe

example : ({} : PState).errorRow ≤ ({} : PState).row := by decide

end RubyTi.C04
