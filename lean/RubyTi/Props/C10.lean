import RubyTi.Model.Narrow
import RubyTi.Gen.NarrowFacts
import RubyTi.Props.C19

/-!
# C10 — nil?/is_a? narrowing is exact inside branches and undone afterwards (narrowing core)

On the model of `setConditionalCtx` / `narrowing` / the restore closures (`Model/Narrow.lean`, tied
to the Go code by the `narrow` correspondence stream through a verif hook), for every store, every
variable `x` with any current type `u` and every tested class `C`:
* `positive_branch`: in the branch a test admits (`if x.is_a?(C)`, `if x.nil?`, `unless !x.…`) `x` is
  the unified type of the tested class;
* `negative_branch`: in the branch that excludes it (`if !x.nil?`, `unless x.is_a?(C)`) `x` is the
  unified type of exactly the variants of `u` whose class is not `C`, in their order;
* `else_after_positive`: the `else` branch of a positive test has exactly the variants of `u`
  whose class is not `C`;
* `other_variable_untouched`: no other variable changes;
* `restore_spec` / `restore_other`: after the conditional every tested variable has the value it
  had before it and nothing else changed.
`state_isolation_facts` (regenerated from eval/ifunless.go each run): `Evaluation` saves the
three state maps and restores them on exit (so a conditional nested in a branch cannot disturb the
enclosing one) and defers the restore closures of `elsif` conditions — both added by `fix:` commits.
Known findings: the negative branch of an `&&` chain narrows every chained variable (K30) and an
`elsif` with a negated test ignores what earlier branches took (K29).
-/
namespace RubyTi.C10
open RubyTi RubyTi.Frame RubyTi.Narrow RubyTi.Unify Gen.Tok

def fresh (isIf : Bool) : St := { isIf := isIf }

theorem positive_branch (vars : Vars) (x C : Str) (u : T) (hx : lookup vars x = some u) (skip : Bool) :
    lookup (cond (fresh true) vars C x false skip).2 x = some (U40 [Config.convertToBuiltinT C]) ∧
    lookup (cond (fresh false) vars C x true skip).2 x = some (U40 [Config.convertToBuiltinT C]) := by
  constructor <;>
  · simp only [Narrow.cond, hx, fresh]
    simp [Narrow.get, Frame.lookup, Frame.insert, lookup_insert_self]

theorem negative_branch (vars : Vars) (x C : Str) (u : T) (hx : lookup vars x = some u) :
    lookup (cond (fresh true) vars C x true false).2 x = some (U40 (minusByClass u [Config.convertToBuiltinT C])) ∧
    lookup (cond (fresh false) vars C x false false).2 x = some (U40 (minusByClass u [Config.convertToBuiltinT C])) := by
  constructor <;>
  · simp only [Narrow.cond, hx, fresh]
    simp [Narrow.get, Frame.lookup, Frame.insert, lookup_insert_self]

theorem other_variable_untouched (st : St) (vars : Vars) (x y C : Str) (ex sk : Bool) (h : x ≠ y) :
    lookup (cond st vars C x ex sk).2 y = lookup vars y := by
  unfold Narrow.cond
  cases lookup vars x with
  | none => rfl
  | some u =>
    -- every branch returns the store as it is or with one write to `x`
    simp only [apply_ite Prod.snd, apply_ite (lookup · y), lookup_insert_other _ _ _ _ h]
    generalize (if st.isIf = true then !ex else ex) = b
    cases b <;> cases sk <;> simp only [↓reduceIte, Bool.false_eq_true]
    split <;> first | rfl | exact lookup_insert_other _ _ _ _ h

/-- the `else` branch after `if x.is_a?(C)` / `if x.nil?` on a union `u` -/
theorem else_after_positive (vars : Vars) (x C : Str) (u : T) (hx : lookup vars x = some u) (hu : u.tag = UNION) :
    let r := cond (fresh true) vars C x false false
    lookup (elseStep r.1 r.2) x =
      some (U40 (u.variants.filter fun v => !([Config.convertToBuiltinT C].any fun n => v.objectClass == n.objectClass))) := by
  simp only [Narrow.cond, hx, fresh]
  simp [Narrow.get, Frame.lookup, Frame.insert, elseStep, elseVariants, hu, lookup_insert_self]

theorem restore_spec (before vars : Vars) (x : Str) (t : T) (hb : lookup before x = some t) :
    lookup (restore before [x] vars) x = some t := by
  simp [restore, hb, lookup_insert_self]

theorem restore_other (before vars : Vars) (x y : Str) (h : x ≠ y) :
    lookup (restore before [x] vars) y = lookup vars y := by
  simp only [restore, List.foldl_cons, List.foldl_nil]
  split
  · exact lookup_insert_other _ _ _ _ h
  · rfl

/-- what `IfUnless.Evaluation` does around the core, as extracted from the source now: the three state maps are
saved and each gets its own copy back, the restore closures of an `elsif` are deferred, and the restore
closures of the condition run last-in first-out -/
theorem state_isolation_facts :
    Gen.ifUnlessSavesState = true ∧ Gen.elsifDefersRestores = true ∧ Gen.conditionRestoresLIFO = true := by decide

/-! ### Why the restore closures must run last-in first-out

Every narrowing step of a condition (`!x.nil? && !x.is_a?(Integer)` has two for `x`) pushes a closure that
writes back the value the variable had *before that step*. `saves` lists them in step order. -/

theorem lookup_applyWrites_find {κ ν} [DecidableEq κ] (t : Table κ ν) (ws : List (κ × ν)) (k : κ) :
    lookup (C19.applyWrites t ws) k =
      match ws.reverse.find? (fun w => w.1 == k) with
      | some w => some w.2
      | none => lookup t k :=
  lookup_foldl_insert t ws k

/-- **Last-in first-out restores the pre-conditional value**: running the restore closures in reverse step
order leaves every narrowed variable with the value saved by its FIRST step — the value it had before the
conditional — however many steps narrowed it. -/
theorem restore_lifo_original {κ ν} [DecidableEq κ] (t : Table κ ν) (saves : List (κ × ν)) (k : κ) (v : ν)
    (hfirst : saves.find? (fun w => w.1 == k) = some (k, v)) :
    lookup (C19.applyWrites t saves.reverse) k = some v := by
  rw [lookup_applyWrites_find, List.reverse_reverse, hfirst]

/-- a variable no step narrowed is not touched by the restores -/
theorem restore_lifo_other {κ ν} [DecidableEq κ] (t : Table κ ν) (saves : List (κ × ν)) (k : κ)
    (h : saves.find? (fun w => w.1 == k) = none) :
    lookup (C19.applyWrites t saves.reverse) k = lookup t k := by
  rw [lookup_applyWrites_find, List.reverse_reverse, h]

/-- first-in first-out would leave the value saved by the LAST step (witness: `x` narrowed twice, original 10,
intermediate 20: LIFO gives 10 back, FIFO 20) -/
example :
    lookup (C19.applyWrites ([(1, 30)] : Table Nat Nat) [(1, 10), (1, 20)].reverse) 1 = some 10 ∧
    lookup (C19.applyWrites ([(1, 30)] : Table Nat Nat) [(1, 10), (1, 20)]) 1 = some 20 := by decide

/-- non-vacuity: `x : Integer|String|NilClass`, `if x.nil?` … `else` -/
example :
    let u := T.makeUnion [T.makeAnyInt, T.makeAnyString, T.makeNil]
    let vars : Vars := [("x".toList, u)]
    let r := cond (fresh true) vars "NilClass".toList "x".toList false false
    ((lookup r.2 "x".toList).map T.tag = some NIL) ∧
    ((lookup (elseStep r.1 r.2) "x".toList).map (fun t => t.variants.map T.tag) = some [INT, STRING]) := by decide

end RubyTi.C10
