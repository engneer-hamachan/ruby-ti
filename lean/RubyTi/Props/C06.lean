import RubyTi.Proofs.LexerLemmas
import RubyTi.Proofs.TokenLemmas
import RubyTi.Props.C04

/-!
# C06 — layout changes only shift reported rows (lexer / row-counter half)

Proved on the lexer and token-layer models, for all inputs:
* `comment_line_is_blank`: a comment-only line (`#…` up to the line break) produces exactly the
  token a blank line produces — the newline token — and leaves the same pending input, so
  inserting comment lines and inserting blank lines are the same edit for everything downstream;
* `newline_token_rows`: a newline token adds exactly one to `Row` and leaves `ErrorRow`;
* `string_token_rows`: a string literal adds exactly the number of line breaks it contains to
  `Row` (after the `fix:` commit: once, when the token is lexed — also when it is consumed by
  `Skip`, and never again when it is re-delivered after `Unget`);
* `unget_no_rows`: re-delivering a token changes neither `Row` nor `ErrorRow`;
* `rows_monotone` (C04).
Whether the *evaluators* treat the extra newline token at a statement boundary as neutral is
not carried by a model; it is checked end-to-end (blank/comment line at every statement
boundary, widened string literals, trailing newline), see the evidence file.
-/
namespace RubyTi.C06
open RubyTi RubyTi.Lexer RubyTi.Token

theorem dropWhile_append_stop {α} (p : α → Bool) (c : List α) (x : α) (rest : List α)
    (hc : ∀ a ∈ c, p a = true) (hx : p x = false) : (c ++ x :: rest).dropWhile p = x :: rest := by
  induction c with
  | nil => simp [hx]
  | cons a t ih =>
    simp only [List.cons_append, List.dropWhile, hc a (by simp)]
    exact ih (fun b hb => hc b (by simp [hb]))

/-- A comment-only line lexes exactly like a blank line. -/
theorem comment_line_is_blank (st : LState) (c rest : List Rune)
    (hc : ∀ a ∈ c, a ≠ 10 ∧ a ≠ 0) :
    advance { st with pending := 35 :: (c ++ 10 :: rest) } = advance { st with pending := 10 :: rest } := by
  have hskip : skipComment (c ++ 10 :: rest) = 10 :: rest := by
    unfold skipComment
    apply dropWhile_append_stop
    · intro a ha; have := hc a ha; simp [NL, this.1, this.2]
    · simp [NL]
  have hss : skipSpace (35 :: (c ++ 10 :: rest)) = (false, 35 :: (c ++ 10 :: rest)) := by
    have h35 : isSpace 35 = false := by decide
    simp [skipSpace, List.dropWhile, h35]
  rw [advance]
  split
  · rename_i hp; rw [hss] at hp; cases hp
  · rename_i c0 cs0 hp
    rw [hss] at hp
    simp at hp
    obtain ⟨rfl, rfl⟩ := hp
    simp [singleCharToks, quoteChars]
    rw [hskip, hss]
    simp

/-- a newline token adds exactly one to Row and does not move ErrorRow -/
theorem newline_token_rows {p p' : PState} (hf : p.ungetFlg = false) (h : getToken p = some p')
    (hadv : (advance p.lx).1 = true) (htok : (advance p.lx).2.tok = 10) :
    p'.row = p.row + 1 ∧ p'.errorRow = p.errorRow := by
  cases getToken_fresh hf hadv h
  simp [deliver, tokenRows, htok]

/-- a string literal adds exactly the number of line breaks it contains to Row, and ErrorRow is
the row the literal starts on -/
theorem string_token_rows {p p' : PState} (hf : p.ungetFlg = false) (h : getToken p = some p') (s : List Rune)
    (hadv : (advance p.lx).1 = true) (htok : (advance p.lx).2.tok = TOK_STRING) (hval : (advance p.lx).2.val = .str s) :
    p'.row = p.row + s.count 10 ∧ p'.errorRow = p.row := by
  have hne : TOK_STRING ≠ (10 : Int) := by decide
  cases getToken_fresh hf hadv h
  simp [deliver, tokenRows, htok, hval, hne]

/-- re-delivering a token after Unget moves no row -/
theorem unget_no_rows {p p' : PState} (hf : p.ungetFlg = true) (h : getToken p = some p') :
    p'.row = p.row ∧ p'.errorRow = p.errorRow := by
  rcases getToken_unget hf h with ⟨-, rfl⟩ | ⟨-, -, rfl⟩ <;> exact ⟨rfl, rfl⟩

theorem rows_monotone {p p' : PState} (h : getToken p = some p') (hinv : p.errorRow ≤ p.row) :
    p.row ≤ p'.row ∧ p'.errorRow ≤ p'.row ∧ (p'.errorRow = p.errorRow ∨ p'.errorRow = p.row) :=
  C04.rows_monotone h hinv

/-- non-vacuity of `comment_line_is_blank`'s hypotheses -/
example : ∀ a ∈ [123, 32, 110, 111, 116, 101], a ≠ 10 ∧ a ≠ 0 := by decide

end RubyTi.C06
