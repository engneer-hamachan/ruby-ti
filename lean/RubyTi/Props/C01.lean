import RubyTi.Proofs.LexerLemmas
import RubyTi.Proofs.TokenLemmas
import RubyTi.Props.C03
import RubyTi.Gen.NilGuards

/-!
# C01 — the analyzer never crashes (the part a model can carry)

Proved here, for all inputs:
* from a well-formed parser state `Read` never reports `read error` and never fails a `Value().(T)` type
  assertion, and it leaves a well-formed state (`read_never_errors`; the initial state is well-formed, `init_wf`);
* identifiers handed to `IsClassIdentifier` are non-empty, so `ToString()[0]` is in range;
* `TypeToString` has a case for every type tag (its `default: panic` is unreachable for tags
  of `base/type.go`);
* every `Is…`/`Has…` predicate on `*T` in base/ answers for a nil receiver, except a reviewed
  list (regenerated table `Gen.nilGuards`).
Not carried by the model: nil/bounds panics inside the evaluators (covered by the black-box
sweep with a site-keyed findings list).
-/
namespace RubyTi.C01
open RubyTi RubyTi.Lexer RubyTi.Token

/-- **Read never errs**: from a well-formed state, `Read` answers a token or EOS — never
`read error`, never a failed type assertion — and leaves a well-formed state. -/
theorem read_never_errors (bc : List (List Rune)) {p p' : PState} {o : ReadOut} (hw : WF p)
    (h : Token.read bc p = some (o, p')) :
    (match o with | .readError => False | .assertPanic => False | _ => True) ∧ WF p' := by
  obtain ⟨q, hq, h⟩ := read_spec h
  have hwq := getToken_wf hw hq
  rcases h with ⟨⟨k, rfl⟩, rfl⟩ | ⟨rfl, rfl⟩ | ⟨-, rfl, hnok, hne⟩
  · exact ⟨trivial, hwq⟩
  · exact ⟨trivial, hwq⟩
  · -- an error is reported only for a token that is not well-formed
    rcases hwq with hok | he
    · rw [hnok] at hok; cases hok
    · exact absurd (he ▸ readKind'_of_eos _) hne
theorem init_wf (input : List Rune) : WF { lx := { pending := input } } := by
  left; rfl

/-- identifiers are never empty, so `IsClassIdentifier`'s `ToString()[0]` is in range -/
theorem ident_never_empty (input : List Rune) :
    ∀ t ∈ (Lexer.tokens input).1, identNonEmpty t :=
  fun t ht => (C03.kind_defined input t ht).2

/-- `TypeToString` has a case for every tag declared in base/type.go except the EOS marker -/
theorem typeToString_total :
    ∀ e ∈ Gen.Tok.all, e.2 = Gen.Tok.EOS ∨ (Gen.typeNames.lookup e.2).isSome = true := by decide +kernel

/-- predicates that lack a leading nil test, each reviewed:
`HasOverloads`, `IsEmptyDefineArgs`: called on resolved method values only;
`IsClassIdentifier`: called in Read on a fresh identifier; `IsEqualObject`, `IsMatchUnionType`:
called on evaluated argument types; `IsRefferenceSquareT`: `IsTargetIdentifier` short-circuits. -/
def reviewedUnguarded : List String :=
  ["HasOverloads", "IsClassIdentifier", "IsEmptyDefineArgs", "IsEqualObject", "IsMatchUnionType", "IsRefferenceSquareT"]

theorem predicates_nil_safe :
    ∀ g ∈ Gen.nilGuards, g.2.1 = true → g.2.2 = true ∨ g.1 ∈ reviewedUnguarded := by decide +kernel

end RubyTi.C01
