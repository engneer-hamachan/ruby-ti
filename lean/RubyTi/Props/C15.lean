import RubyTi.Model.Propagate
import RubyTi.Proofs.UnifyLemmas
import RubyTi.Props.C09

/-!
# C15 — user method parameter types are inferred from all call sites (propagation core)

On the model of `propagationForCalledTo` (`Model/Propagate.lean`, tied to the Go function by the
`prop` correspondence stream through a verif hook: sequences of call-site argument types replayed
round after round, from an empty slot, a plain value or a defaulted parameter):
* `first_site_sets_slot`: the first call site gives the parameter the argument's type;
* `union_accumulates`: once the slot is a union inferred from calls, every further site is appended
  to it (never replaced, whatever the round tags are);
* `covers_step`: for a slot inferred from calls and a scalar argument, after the step the slot
  covers the argument, and everything a union slot covered before is still covered;
* `covers_all_sites`: hence after replaying ANY list of scalar call-site types in a round, starting
  from an empty slot or a slot inferred in an earlier round, the slot covers every one of them —
  the statement's "covers the union of the argument types at all call sites".
Return unification, `def` header parsing and the order of definition and calls are evaluator
behaviour: end-to-end.
-/
namespace RubyTi.C15
open RubyTi RubyTi.Propagate RubyTi.Unify RubyTi.Match Gen.Tok

/-- a call-site argument type that is neither a container nor a union -/
def scalarArg (a : T) : Prop :=
  a.tag ≠ UNION ∧ a.tag ≠ HASH ∧ a.tag ≠ ARRAY ∧ a.tag ≠ UNKNOWN ∧ a.variants = []

/-- the slot type `t` covers the scalar type `a` -/
def covers (t a : T) : Bool :=
  if t.tag == UNION then t.variants.any fun v => Match.isMatchType v a else Match.isMatchType t a

/-- equal tag and class means the types match (both are non-unions) -/
theorem match_of_equal (v a : T) (ha : a.tag ≠ UNION) (h : (v.tag == a.tag && v.objectClass == a.objectClass) = true) :
    Match.isMatchType v a = true := by
  simp only [Bool.and_eq_true, beq_iff_eq] at h
  simp [Match.isMatchType, Match.isUnion, h.1, h.2, ha]

theorem match_refl_scalar (a : T) (ha : a.tag ≠ UNION) : Match.isMatchType a a = true :=
  match_of_equal a a ha (by simp)

theorem first_site_sets_slot (round : Str) (a : T) (ha : a.tag ≠ UNKNOWN) :
    propagate round none a = (some { t := setInferred a, round := round }, true) := by
  simp [propagate, ha]

theorem union_accumulates (round : Str) (s : Slot) (a : T) (ha : a.tag ≠ UNKNOWN)
    (hu : s.t.tag = UNION) (hi : s.t.fl.isInferredFromCall = true) (hb : s.t.fl.isBuiltin = false)
    (hd : s.t.fl.hasDefault = false)
    (hspecial : ¬ (s.round != [] && s.round != round && s.t.variants.length == 2 &&
        s.t.variants.any (fun v => v.tag == UNTYPED) && s.t.variants.any (fun v => Match.isMatchType v a)) = true) :
    propagate round (some s) a = (some { s with t := appendVariant 40 s.t a }, true) := by
  have h2 : (UNION == UNKNOWN) = false := by decide
  -- with the slot's tag and flags known the chain is left with the special case, which `hspecial` excludes
  simp only [propagate, beq_false_of_ne ha, hu, h2, hb, hd, hi, beq_self_eq_true, Bool.and_true, Bool.and_false, Bool.false_eq_true,
    ite_false, hspecial, ite_true]

/-! ## the covering invariant -/

structure Inv (t : T) : Prop where
  inferred : t.fl.isInferredFromCall = true
  notBuiltin : t.fl.isBuiltin = false
  noDefault : t.fl.hasDefault = false
  notUnknown : t.tag ≠ UNKNOWN
  shape : (t.tag ≠ UNION ∧ t.tag ≠ HASH ∧ t.tag ≠ ARRAY ∧ t.variants = []) ∨ t.tag = UNION

theorem setInferred_tag (a : T) : (setInferred a).tag = a.tag := by cases a; rfl
theorem setInferred_class (a : T) : (setInferred a).objectClass = a.objectClass := by cases a; rfl
theorem setInferred_variants (a : T) : (setInferred a).variants = a.variants := by cases a; rfl
theorem setInferred_fl (a : T) : (setInferred a).fl = { a.fl with isInferredFromCall := true } := by cases a; rfl

theorem covers_self_scalar (a : T) (ha : scalarArg a) : covers (setInferred a) a = true := by
  simp only [covers, setInferred_tag, beq_false_of_ne ha.1, Bool.false_eq_true, ite_false]
  exact match_of_equal _ _ ha.1 (by simp [setInferred_tag, setInferred_class])

/-- a fresh slot made from a call-site argument satisfies the invariant, provided the argument is
not itself flagged as a builtin/default declaration (call-site values are not) -/
theorem inv_setInferred (a : T) (ha : scalarArg a) (hb : a.fl.isBuiltin = false) (hd : a.fl.hasDefault = false) :
    Inv (setInferred a) := by
  -- `setInferred` only sets the flag: once `a` is a constructor every field can be read off
  cases a
  exact ⟨rfl, hb, hd, ha.2.2.2.1, Or.inl ⟨ha.1, ha.2.1, ha.2.2.1, ha.2.2.2.2⟩⟩

theorem setVariants_fl (t : T) (vs : List T) : (t.setVariants vs).fl = t.fl := by cases t; rfl
theorem setVariants_class (t : T) (vs : List T) : (t.setVariants vs).objectClass = t.objectClass := by cases t; rfl

/-- appending a scalar to a union slot: the result covers it and still covers what was covered -/
theorem append_covers (d a : T) (hu : d.tag = UNION) (ha : scalarArg a) :
    covers (appendVariant 40 d a) a = true ∧ (∀ b, covers d b = true → covers (appendVariant 40 d a) b = true) ∧
    (appendVariant 40 d a).tag = UNION ∧ (appendVariant 40 d a).fl = d.fl := by
  have hdu : (d.tag == UNION) = true := by simpa using hu
  rw [appendVariant_of_scalar _ d a ha.1 ha.2.1 ha.2.2.1]
  cases he : isEqualObject d a with
  | true =>
    -- some variant has the tag and class of `a`, so it matches `a`
    rw [isEqualObject_of_tag_ne d a (hu ▸ Ne.symm ha.1)] at he
    obtain ⟨v, hv, hve⟩ := List.any_eq_true.mp he
    refine ⟨?_, fun b hb => hb, hu, rfl⟩
    simp only [covers, hdu, ite_true]
    exact List.any_eq_true.mpr ⟨v, hv, match_of_equal v a ha.1 hve⟩
  | false =>
    simp only [Bool.false_eq_true, ite_false, covers, C09.setVariants_tag, C09.setVariants_variants, setVariants_fl, hdu,
      ite_true, List.any_append, Bool.or_eq_true]
    exact ⟨Or.inr (by simp [match_refl_scalar a ha.1]), fun b hb => Or.inl hb, hu, trivial⟩

/-- call-site values carry neither the builtin nor the default flag -/
def plainArg (a : T) : Prop := scalarArg a ∧ a.fl.isBuiltin = false ∧ a.fl.hasDefault = false ∧ a.tag ≠ UNTYPED

/-- no variant of the slot is `untyped` (the two-variant untyped special case cannot apply) -/
def typedSlot (t : T) : Prop := ∀ v ∈ t.variants, v.tag ≠ UNTYPED

/-- one call site against a UNION slot inferred from calls -/
theorem covers_step_union (round : Str) (s : Slot) (a : T) (ha : plainArg a) (hinv : Inv s.t) (hu : s.t.tag = UNION)
    (ht : typedSlot s.t) :
    ∃ s', (propagate round (some s) a).1 = some s' ∧ Inv s'.t ∧ s'.t.tag = UNION ∧ covers s'.t a = true ∧
      (∀ b, covers s.t b = true → covers s'.t b = true) ∧ typedSlot s'.t := by
  -- no variant is untyped, so the two-variant special case cannot apply
  have hty : s.t.variants.any (fun v => v.tag == UNTYPED) = false :=
    List.any_eq_false.mpr fun v hv => by simpa using ht v hv
  rw [union_accumulates round s a ha.1.2.2.2.1 hu hinv.inferred hinv.notBuiltin hinv.noDefault (by simp [hty])]
  obtain ⟨h1, h2, h3, h4⟩ := append_covers s.t a hu ha.1
  refine ⟨_, rfl, ⟨h4 ▸ hinv.inferred, h4 ▸ hinv.notBuiltin, h4 ▸ hinv.noDefault, h3 ▸ by decide, Or.inr h3⟩, h3, h1, h2, ?_⟩
  -- the appended variant is typed
  show typedSlot (appendVariant _ s.t a)
  rw [appendVariant_of_scalar _ s.t a ha.1.1 ha.1.2.1 ha.1.2.2.1]
  split
  · exact ht
  · intro v hv
    rw [C09.setVariants_variants] at hv
    rcases List.mem_append.mp hv with h | h
    · exact ht v h
    · rw [List.mem_singleton.mp h]
      exact ha.2.2.2

/-- **every call site ends up covered**: replaying any list of plain call-site types against a union
slot inferred from calls keeps covering each of them (and what was covered before) -/
theorem covers_all_sites_union (round : Str) (sites : List T) (hs : ∀ a ∈ sites, plainArg a) :
    ∀ (s : Slot), Inv s.t → s.t.tag = UNION → typedSlot s.t →
    ∃ s', sites.foldl (fun acc a => (propagate round acc a).1) (some s) = some s' ∧ Inv s'.t ∧ s'.t.tag = UNION ∧
      (∀ a ∈ sites, covers s'.t a = true) ∧ (∀ b, covers s.t b = true → covers s'.t b = true) := by
  intro s hi hu ht
  obtain ⟨s', e, ⟨i, u, _⟩, c, m⟩ := foldl_covers (step := fun acc a => (propagate round acc a).1)
    (P := fun s => Inv s.t ∧ s.t.tag = UNION ∧ typedSlot s.t)
    (fun s a ha ⟨hi, hu, ht⟩ =>
      let ⟨s1, e1, i1, u1, c1, m1, t1⟩ := covers_step_union round s a ha hi hu ht
      ⟨s1, e1, ⟨i1, u1, t1⟩, c1, m1⟩)
    sites hs s ⟨hi, hu, ht⟩
  exact ⟨s', e, i, u, c, m⟩

/-! ## slots that are a single class -/

/-- the unified type of two scalars that do not match is the union of both -/
theorem unify_two (d a : T) (hd : C09.scalar d) (hdv : d.variants = []) (hdk : d.tag ≠ UNKNOWN)
    (ha : scalarArg a) (hm : Match.isMatchType d a = false) :
    unifyVariants 40 (T.makeUnion [d, a]) = T.makeUnion [d, a] := by
  -- `a` has not the tag and class of `d`: they do not even match
  have hda : (d.tag == a.tag && d.objectClass == a.objectClass) = false :=
    Bool.eq_false_iff.mpr fun h => by simp [match_of_equal d a ha.1 h] at hm
  refine unifyVariants_pair _ _ d a (by rw [T.makeUnion_tag]; decide) hdk ha.2.2.2.1 ?_
  -- `d` enters the empty union, then `a` the union of `d`
  simp [T.makeUnion_variants, appendVariant_makeUnion _ _ d hd.1 hd.2.1 hd.2.2,
    appendVariant_makeUnion _ _ a ha.1 ha.2.1 ha.2.2.1, hda]

def scalarT (t : T) : Prop := t.tag ≠ UNION ∧ t.tag ≠ HASH ∧ t.tag ≠ ARRAY ∧ t.variants = []

/-- a slot within the pass of `round`: a typed union, or a single typed class set in this pass -/
def Stable (round : Str) (s : Slot) : Prop :=
  Inv s.t ∧ ((s.t.tag = UNION ∧ typedSlot s.t) ∨ (scalarT s.t ∧ s.t.tag ≠ UNTYPED ∧ (s.round = round ∨ s.round = [])))

theorem setFl_tag (t : T) (f : Flags → Flags) : (t.setFl f).tag = t.tag := by cases t; rfl
theorem setFl_variants (t : T) (f : Flags → Flags) : (t.setFl f).variants = t.variants := by cases t; rfl
theorem setFl_fl (t : T) (f : Flags → Flags) : (t.setFl f).fl = f t.fl := by cases t; rfl

/-- one call site against a single-class slot of the current pass -/
theorem covers_step_scalar (round : Str) (s : Slot) (a : T) (ha : plainArg a) (hinv : Inv s.t)
    (hsc : scalarT s.t) (hty : s.t.tag ≠ UNTYPED) (hr : s.round = round ∨ s.round = []) :
    ∃ s', (propagate round (some s) a).1 = some s' ∧ Stable round s' ∧ covers s'.t a = true ∧
      (∀ b, covers s.t b = true → covers s'.t b = true) := by
  have hcs : ∀ b, covers s.t b = Match.isMatchType s.t b := fun b => by rw [covers, beq_false_of_ne hsc.1]; rfl
  have hround : (s.round != [] && s.round != round) = false := by
    rcases hr with h | h <;> simp [h]
  simp only [propagate, beq_false_of_ne ha.1.2.2.2.1, beq_false_of_ne hinv.notUnknown, hinv.notBuiltin,
    beq_false_of_ne hsc.1, hround, hinv.noDefault, hinv.inferred, beq_false_of_ne ha.1.1, Bool.false_eq_true, ite_false,
    Bool.false_and, Bool.or_true, ite_true, List.singleton_append]
  cases hm : Match.isMatchType s.t a with
  | true => exact ⟨s, rfl, ⟨hinv, Or.inr ⟨hsc, hty, hr⟩⟩, (hcs a).trans hm, fun b hb => hb⟩
  | false =>
    -- the new slot is the union of the old class and `a`, flagged as inferred
    simp only [Bool.false_eq_true, ite_false]
    rw [unify_two s.t a ⟨hsc.1, hsc.2.1, hsc.2.2.1⟩ hsc.2.2.2 hinv.notUnknown ha.1 hm]
    have hc : ∀ f b, covers ((T.makeUnion [s.t, a]).setFl f) b = (Match.isMatchType s.t b || Match.isMatchType a b) :=
      fun f b => by simp [covers, setFl_tag, setFl_variants, T.makeUnion_tag, T.makeUnion_variants]
    refine ⟨_, rfl, ⟨⟨rfl, rfl, rfl, show UNION ≠ UNKNOWN by decide, Or.inr rfl⟩, Or.inl ⟨rfl, ?_⟩⟩, ?_, fun b hb => ?_⟩
    · simp [typedSlot, setFl_variants, T.makeUnion_variants, hty, ha.2.2.2]
    · rw [hc, match_refl_scalar a ha.1.1, Bool.or_true]
    · rw [hc, ← hcs, hb, Bool.true_or]

/-- one call site against any slot of the current pass: still of the pass, covers the site, loses nothing -/
theorem covers_step (round : Str) (s : Slot) (a : T) (ha : plainArg a) (hs : Stable round s) :
    ∃ s', (propagate round (some s) a).1 = some s' ∧ Stable round s' ∧ covers s'.t a = true ∧
      (∀ b, covers s.t b = true → covers s'.t b = true) := by
  obtain ⟨hinv, hshape⟩ := hs
  rcases hshape with ⟨hu, ht⟩ | ⟨hsc, hty, hr⟩
  · obtain ⟨s', e, i, u, c, m, t⟩ := covers_step_union round s a ha hinv hu ht
    exact ⟨s', e, ⟨i, Or.inl ⟨u, t⟩⟩, c, m⟩
  · exact covers_step_scalar round s a ha hinv hsc hty hr

/-- replaying call sites within a pass, starting from a slot of the pass -/
theorem covers_sites_from (round : Str) (sites : List T) (hs : ∀ a ∈ sites, plainArg a) :
    ∀ (s : Slot), Stable round s →
    ∃ s', sites.foldl (fun acc a => (propagate round acc a).1) (some s) = some s' ∧ Stable round s' ∧
      (∀ a ∈ sites, covers s'.t a = true) ∧ (∀ b, covers s.t b = true → covers s'.t b = true) :=
  foldl_covers (covers_step round) sites hs

/-- **C15, parameter types**: replaying the call sites of a method (any non-empty list of plain
argument types, in any round) against a parameter that has no slot yet leaves a slot that covers the
type of EVERY call site -/
theorem covers_all_sites (round : Str) (a : T) (rest : List T) (ha : plainArg a) (hs : ∀ x ∈ rest, plainArg x) :
    ∃ s', (a :: rest).foldl (fun acc x => (propagate round acc x).1) none = some s' ∧
      ∀ x ∈ a :: rest, covers s'.t x = true := by
  rw [List.foldl_cons, first_site_sets_slot round a ha.1.2.2.2.1]
  have hst : Stable round { t := setInferred a, round := round } := by
    rw [Stable, scalarT, setInferred_tag, setInferred_variants]
    exact ⟨inv_setInferred a ha.1 ha.2.1 ha.2.2.1,
      Or.inr ⟨⟨ha.1.1, ha.1.2.1, ha.1.2.2.1, ha.1.2.2.2.2⟩, ha.2.2.2, Or.inl rfl⟩⟩
  obtain ⟨s', e, _, c, m⟩ := covers_sites_from round rest hs _ hst
  exact ⟨s', e, List.forall_mem_cons.mpr ⟨m a (covers_self_scalar a ha.1), c⟩⟩

/-- a single-class slot left by an earlier round is replaced by the first site of the new round -/
theorem other_round_scalar_replaced (round : Str) (s : Slot) (a : T) (ha : plainArg a) (hinv : Inv s.t) (hsc : scalarT s.t)
    (hr1 : s.round ≠ []) (hr2 : s.round ≠ round) :
    propagate round (some s) a = (some { t := setInferred a, round := round }, false) := by
  simp [propagate, ha.1.2.2.2.1, hinv.notUnknown, hinv.notBuiltin, hsc.1, hr1, hr2]

/-- **later rounds**: replaying the sites again in another round, against whatever single-class slot the earlier round left,
covers every site as well (a union slot is handled by `covers_sites_from` directly: `Stable` does not look at its round) -/
theorem covers_all_sites_next_round (round : Str) (s : Slot) (a : T) (rest : List T) (ha : plainArg a) (hs : ∀ x ∈ rest, plainArg x)
    (hinv : Inv s.t) (hsc : scalarT s.t) (hr1 : s.round ≠ []) (hr2 : s.round ≠ round) :
    ∃ s', (a :: rest).foldl (fun acc x => (propagate round acc x).1) (some s) = some s' ∧
      ∀ x ∈ a :: rest, covers s'.t x = true := by
  -- after the first site the replay is where the replay from an empty slot is
  have h := covers_all_sites round a rest ha hs
  rw [List.foldl_cons, first_site_sets_slot round a ha.1.2.2.2.1] at h
  rwa [List.foldl_cons, other_round_scalar_replaced round s a ha hinv hsc hr1 hr2]

/-- non-vacuity: sites Integer, String, Integer, NilClass in the check round -/
example : ∃ s', ([T.makeInt, T.makeAnyString, T.makeInt, T.makeNil].foldl
    (fun acc x => (propagate "check".toList acc x).1) none) = some s' ∧ s'.t.variants.map T.tag = [INT, STRING, NIL] :=
  ⟨_, rfl, by decide⟩

end RubyTi.C15
