import RubyTi.Proofs.MatchLemmas
import RubyTi.Proofs.BindLemmas
import RubyTi.Gen.StrategyFacts

/-!
# C07 — definite misuse is reported (the per-argument decision)

`rejected_reported`: for every declared parameter type `d` and argument type `a`: if every
possible value of `a` (its variants when it is a union) is rejected by `d`, the argument is not a
block / untyped / unknown value, `d` is not untyped and a union parameter has at least one variant,
then checkArgType reports a mismatch. False before the `fix:` commits on IsMatchUnionType /
IsMatchType: `Foo` was accepted for `GPIO|String`, `Union<Foo String>` for `Union<Bar String>`.
`too_many_reported`, `missing_required_reported`, `rejected_argument_reported`: on the model of the
binding loop of checkAndPropagateArgs (`Model/Bind.lean`, tied by the `bind` stream through hooks that
declare a configured method and call the real loop), for every positional signature and every list of
positional arguments: more arguments than parameters, a parameter without default left without an
argument, or an argument all of whose possible values the parameter at its position rejects — each
makes the call be reported (`bind_pos_ok_iff`: accepted exactly when it fits). Rest and keyword
parameters are covered by the stream and end-to-end; rest (`*T`) parameters do not check their element
type (known finding K28). Receiver lookup: C16's `lookup` stream.
-/
namespace RubyTi.C07
open RubyTi RubyTi.Match Gen.Tok

/-- **C07, per argument**: an argument all of whose possible values are rejected is reported -/
theorem rejected_reported (d a : T) (hne : possible a ≠ [])
    (hblock : a.tag ≠ BLOCK) (hau : a.tag ≠ UNTYPED) (hak : a.tag ≠ UNKNOWN) (hdu : d.tag ≠ UNTYPED)
    (hdne : d.tag = UNION → d.variants ≠ [])
    (h : ∀ v ∈ possible a, admits d v = false) : checkArg d a = false := by
  obtain ⟨v, hv⟩ := List.exists_mem_of_ne_nil _ hne
  rw [checkArg_typed d a hblock hau hak hdu hdne]
  split
  · exact List.any_eq_false.mpr fun w hw => by simp [h w hw]
  · exact List.all_eq_false.mpr ⟨v, hv, by simp [h v hv]⟩

/-- non-vacuity: an object of class `Foo` against `GPIO|String` (the witness that used to be accepted) -/
example : checkArg (T.makeUnion [T.makeObject "GPIO".toList, T.makeAnyString]) (T.makeObject "Foo".toList) = false := by decide

example : checkArg (T.makeUnion [T.makeObject "Bar".toList, T.makeAnyString])
    (T.makeUnion [T.makeObject "Foo".toList, T.makeAnyString]) = false := by decide

/-! ## counts and binding (positional signatures) -/
section
open RubyTi.Bind

/-- more arguments than the signature has parameters: reported -/
theorem too_many_reported (ps : List Param) (hps : posOnly ps) (as : List T) (h : as.length > ps.length) :
    bind ps (as.map Arg.pos) ≠ .ok := by
  intro hok
  have := (fitsB_spec as ps ((bind_pos_ok_iff ps hps as).mp hok)).1
  omega

theorem fitsB_default_tail (as : List T) (ps : List Param) (h : fitsB as ps = true) :
    ∀ i, (hi : i < ps.length) → as.length ≤ i → (ps[i]).t.fl.hasDefault = true :=
  (fitsB_spec as ps h).2.2

/-- a parameter without default that no argument reaches: reported -/
theorem missing_required_reported (ps : List Param) (hps : posOnly ps) (as : List T) (i : Nat) (hi : i < ps.length)
    (hle : as.length ≤ i) (hreq : (ps[i]).t.fl.hasDefault = false) :
    bind ps (as.map Arg.pos) ≠ .ok := by
  intro hok
  have := fitsB_default_tail as ps ((bind_pos_ok_iff ps hps as).mp hok) i hi hle
  rw [hreq] at this
  exact absurd this (by decide)

theorem fitsB_checks (as : List T) (ps : List Param) (h : fitsB as ps = true) :
    ∀ i, (hi : i < as.length) → (hp : i < ps.length) → Match.checkArg (ps[i]).t (as[i]) = true :=
  (fitsB_spec as ps h).2.1

/-- an argument all of whose possible values are rejected by the parameter at its position: reported -/
theorem rejected_argument_reported (ps : List Param) (hps : posOnly ps) (as : List T) (i : Nat) (hi : i < as.length)
    (hp : i < ps.length) (hne : possible (as[i]) ≠ [])
    (hblock : (as[i]).tag ≠ BLOCK) (hau : (as[i]).tag ≠ UNTYPED) (hak : (as[i]).tag ≠ UNKNOWN)
    (hdu : (ps[i]).t.tag ≠ UNTYPED) (hdne : (ps[i]).t.tag = UNION → (ps[i]).t.variants ≠ [])
    (hrej : ∀ v ∈ possible (as[i]), admits (ps[i]).t v = false) :
    bind ps (as.map Arg.pos) ≠ .ok := by
  intro hok
  have h1 := fitsB_checks as ps ((bind_pos_ok_iff ps hps as).mp hok) i hi hp
  rw [rejected_reported (ps[i]).t (as[i]) hne hblock hau hak hdu hdne hrej] at h1
  exact absurd h1 (by decide)

/-- non-vacuity: `m(Int, String = default)` called with three arguments, with none, and with a Float first -/
example :
    let ps : List Param := [{ kind := .pos, t := T.makeAnyInt }, { kind := .pos, t := T.makeBuiltinDefaultString }]
    bind ps ([T.makeInt, T.makeAnyString, T.makeInt].map Arg.pos) = .tooMany ∧ bind ps [] = .tooFew ∧
    bind ps ([T.makeFloat].map Arg.pos) = .mismatch ∧ bind ps ([T.makeInt].map Arg.pos) = .ok := by decide
/-- no declaration accepts ⇒ the class's result is an error -/
theorem tryOverloads_rejected (args : List Arg) (os : List (List Param)) (last : Res) (hl : last ≠ .ok)
    (h : ∀ o ∈ os, RubyTi.Bind.bind o args ≠ .ok) : tryOverloads args os last ≠ .ok := by
  rw [Ne, tryOverloads_ok_iff]
  rintro (⟨o, ho, hb⟩ | ⟨_, hl'⟩)
  · exact h o ho hb
  · exact hl hl'

theorem bindClass_rejected (decls : List (List Param)) (args : List Arg) (hne : decls ≠ [])
    (h : ∀ d ∈ decls, RubyTi.Bind.bind d args ≠ .ok) : bindClass decls args ≠ .ok := by
  rw [Ne, bindClass_ok_iff]
  rintro (hnil | ⟨d, hd, hb⟩)
  · exact hne hnil
  · exact h d hd hb

/-- **A call on a union receiver that some possible receiver class certainly rejects is reported**: if for one
class of the union every declaration of the method (the first one and all overloads) rejects the arguments, the
call is an error — whatever the other classes declare, for any number of classes and overloads. -/
theorem union_rejected_reported (classes : List (List (List Param))) (args : List Arg)
    (c : List (List Param)) (hc : c ∈ classes) (hne : c ≠ []) (h : ∀ d ∈ c, RubyTi.Bind.bind d args ≠ .ok) :
    bindUnion classes args ≠ .ok :=
  fun hok => bindClass_rejected c args hne h ((bindUnion_ok_iff classes args).mp hok c hc)

end

/-- Union receivers: every class of the receiver is checked with the binding loop above, and an argument error that
none of that class's declarations lifts is returned (regenerated from checkAndPropagateArgsForUnionWithReturnT):
the theorems about one declaration carry over to a call on a union receiver class by class. -/
theorem union_receiver_error_is_returned : Gen.unionReceiverErrorSurvivesOverloads = true := by decide

end RubyTi.C07
