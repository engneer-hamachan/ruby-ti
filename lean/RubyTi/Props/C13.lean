import RubyTi.Model.Token
import RubyTi.Gen.StrategyFacts

/-!
# C13 — consistently renaming user identifiers changes nothing but the names (classification core)

Where a *name* can influence the analysis other than as a map key is token classification in
`parser.Read` (`IsBoolIdentifier`, `IsClassIdentifier`, `IsConstIdentifier`, `IsSymbolIdentifier`).
`classify_depends_on_category`: the kind of token built for an identifier is a function of a small
category tuple of the name — keyword-ness, membership in the configured class list, first byte
upper-case, some lower-case rune, byte length ≥ 2, contains ':' , starts with ':' — so any
renaming that preserves this tuple preserves the token kind.
`ruby_category_refuted`: Ruby's own lexical category (capitalised = constant/class name) is
coarser: `Hoge` and `HG` are both constants in Ruby but get different kinds here (class vs
constant) — the known finding about all-capital class names.
Everything downstream of classification uses names as keys of `TFrame` / `ClassInheritanceMap`
(C19's map model); that part of the property is checked end-to-end by renaming locals, methods and
classes in generated and corpus programs.
-/
namespace RubyTi.C13
open RubyTi RubyTi.Token

/-- the features of a name that `Read` looks at -/
def category (bc : List (List Rune)) (n : List Rune) : Bool × Bool × Bool × Bool × Bool × Bool × Bool × Bool :=
  (n == TRUE_ || n == FALSE_, bc.contains n, isUpper (firstByte n), n.any isLower, decide (byteLen n ≥ 2),
   n.any (· == 58), firstByte n == 58, decide (byteLen n > 1))

inductive Kind where | bool | cls | const | symbol | ident
  deriving DecidableEq, Repr

def kindOf : TK → Kind
  | .bool => .bool
  | .cls _ => .cls
  | .const _ => .const
  | .symbol _ => .symbol
  | _ => .ident

/-- the kind as a function of the category alone -/
def kindOfCategory (c : Bool × Bool × Bool × Bool × Bool × Bool × Bool × Bool) : Kind :=
  let (kw, inBc, up, low, len2, colon, firstColon, len1) := c
  if kw then .bool
  else if inBc || (up && low) then .cls
  else if len2 && !inBc && up && !(colon || low) then .const
  else if len1 && firstColon then .symbol
  else .ident

theorem any_or (n : List Rune) (p q : Rune → Bool) : n.any (fun c => p c || q c) = (n.any p || n.any q) := by
  induction n with
  | nil => rfl
  | cons a t ih => simp only [List.any_cons, ih, Bool.or_assoc, Bool.or_left_comm]

theorem classify_kind (bc : List (List Rune)) (n : List Rune) :
    kindOf (classify bc n) =
      (if n == TRUE_ || n == FALSE_ then Kind.bool else if isClassIdent bc n then .cls
       else if isConstIdent bc n then .const else if isSymbolIdent n then .symbol else .ident) := by
  simp only [classify, apply_ite kindOf]
  rfl

theorem isConstIdent_cat (bc : List (List Rune)) (n : List Rune) :
    isConstIdent bc n = (decide (byteLen n ≥ 2) && !bc.contains n && isUpper (firstByte n) &&
      !((n.any (· == 58)) || n.any isLower)) := by
  simp only [isConstIdent, any_or]

/-- **Classification depends only on the category of the name.** -/
theorem classify_depends_on_category (bc : List (List Rune)) (n : List Rune) :
    kindOf (classify bc n) = kindOfCategory (category bc n) := by
  rw [classify_kind, isConstIdent_cat]
  rfl

/-- Corollary: two names with the same category get tokens of the same kind. -/
theorem rename_preserves_kind (bc : List (List Rune)) (n m : List Rune) (h : category bc n = category bc m) :
    kindOf (classify bc n) = kindOf (classify bc m) := by
  rw [classify_depends_on_category, classify_depends_on_category, h]

/-- Ruby's lexical category is too coarse: `Hoge` (72 111 103 101) and `HG` (72 71) are both
constants in Ruby, yet one is a class token and the other a constant token. -/
theorem ruby_category_refuted :
    kindOf (classify [] [72, 111, 103, 101]) = .cls ∧ kindOf (classify [] [72, 71]) = .const := by
  decide +kernel

/-- non-vacuity: `Hoge` and `Zed` share a category, so do `abc` and `xy` -/
example : category [] [72, 111, 103, 101] = category [] [90, 101, 100] ∧ category [] [97, 98, 99] = category [] [120, 121] := by
  simp only [category, Prod.mk.injEq]
  decide +kernel

/-! ## names that bind (`IsVariableIdentifier`: case/in patterns, block and method parameters) -/

/-- Ruby's category "local variable name": the first byte is a lower-case letter or `_` -/
def localName (n : List Rune) : Prop := firstByte n = 95 ∨ isLower (firstByte n) = true

/-- every name of the local-variable category binds — `_tmp` exactly like `tmp` or `t` -/
theorem local_names_bind (n : List Rune) (hne : n ≠ []) (h : localName n) : isVariableIdent n = true := by
  unfold isVariableIdent
  have : (n != []) = true := by simpa using hne
  rcases h with h | h <;> simp [this, h]

/-- so renaming a local to any fresh name of the same category keeps its binding behaviour -/
theorem rename_preserves_binding (n m : List Rune) (hn : n ≠ []) (hm : m ≠ []) (h1 : localName n) (h2 : localName m) :
    isVariableIdent n = isVariableIdent m := by
  rw [local_names_bind n hn h1, local_names_bind m hm h2]

example : localName [95, 110, 117, 109] ∧ isVariableIdent [95, 110, 117, 109] = true := by
  constructor
  · left; decide
  · decide

/-- `recv.name` is looked up as a method first; an instance variable spelled like the method (`@name`) is a
different identifier and is consulted only when there is no such method (regenerated from
instanceMethodStrategy.getRequiredValues). Renaming the method alone therefore cannot change which of the two a
call denotes. -/
theorem method_before_instance_variable : Gen.instanceLookupMethodFirst = true := by decide

end RubyTi.C13
