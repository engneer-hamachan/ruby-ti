import RubyTi.Proofs.TokenLemmas
import RubyTi.Props.C06

/-!
# C22 — definition info and hover point at the right definition (row and tag bookkeeping)

* `def_row_is_current_line`: `Def.Evaluation` captures `defineRow := p.ErrorRow` right after the
  `def` keyword has been delivered. For every parser state and every non-newline token (so for
  `def` in particular) `ErrorRow` after the token equals `Row` before it — the line the token
  starts on (string literals add their line breaks only afterwards). With C06's row lemmas this
  pins the hint's row to the `def` line, multi-line signatures included.
* `visibility_tag`: the `[c/…]`/`[i/…]` and `private/protected/public` tag is a function of the
  context's three flags; the section state machine of a class body (`private`, `protected`,
  `public` keywords: context/context.go) keeps at most one of the two flags set, so exactly one
  tag is printed (the `[2]bool` switch in setDefineInfos has no case for both).
Which article is recorded for which definition is evaluator behaviour: checked end-to-end.
-/
namespace RubyTi.C22
open RubyTi RubyTi.Lexer RubyTi.Token

/-- a freshly lexed non-newline token sets ErrorRow to the line it starts on -/
theorem def_row_is_current_line {p p' : PState} (hf : p.ungetFlg = false) (h : getToken p = some p')
    (hadv : (advance p.lx).1 = true) (hnl : (advance p.lx).2.tok ≠ 10) :
    p'.errorRow = p.row := by
  cases getToken_fresh hf hadv h
  simp [deliver, hnl]

/-- context/context.go: the visibility flags and the section keywords -/
structure Vis where
  isPrivate : Bool := false
  isProtected : Bool := false
  deriving Repr, DecidableEq

inductive Section where | priv | prot | pub
  deriving Repr, DecidableEq

def Vis.enter (_ : Vis) : Section → Vis
  | .priv => { isPrivate := true, isProtected := false }     -- StartPrivate
  | .prot => { isPrivate := false, isProtected := true }     -- StartProtected
  | .pub => { isPrivate := false, isProtected := false }     -- EndPrivate; EndProtected

def Vis.tag (v : Vis) : Option String :=
  match v.isPrivate, v.isProtected with
  | true, false => some "private"
  | false, true => some "protected"
  | false, false => some "public"
  | true, true => none                 -- the switch in setDefineInfos has no such case

theorem foldl_enter_last (secs : List Section) (v : Vis) :
    secs.foldl Vis.enter v = (match secs.getLast? with | none => v | some s => Vis.enter v s) := by
  induction secs generalizing v with
  | nil => rfl
  | cons a t ih =>
    simp only [List.foldl_cons]
    rw [ih]
    cases t with
    | nil => rfl
    | cons b u =>
      simp only [List.getLast?_cons_cons]
      cases h : (b :: u).getLast? with
      | none => simp at h
      | some s => cases s <;> rfl

/-- after any sequence of section keywords exactly one visibility tag applies, and it is the one
of the last keyword (public when there was none) -/
theorem visibility_tag (secs : List Section) :
    (secs.foldl Vis.enter {}).tag =
      some (match secs.getLast? with | some .priv => "private" | some .prot => "protected" | _ => "public") := by
  rw [foldl_enter_last]
  cases h : secs.getLast? with
  | none => rfl
  | some s => cases s <;> rfl

theorem string_rows_after (p p' : PState) (hf : p.ungetFlg = false) (h : getToken p = some p') (s : List Rune)
    (hadv : (advance p.lx).1 = true) (htok : (advance p.lx).2.tok = TOK_STRING) (hval : (advance p.lx).2.val = .str s) :
    p'.row = p.row + s.count 10 ∧ p'.errorRow = p.row :=
  C06.string_token_rows hf h s hadv htok hval

example : (([Section.priv, .pub, .prot] : List Section).foldl Vis.enter {}).tag = some "protected" := by decide

end RubyTi.C22
