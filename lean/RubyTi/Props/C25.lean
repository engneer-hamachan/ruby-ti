import RubyTi.Model.Rbs
import RubyTi.Proofs.ArgsLemmas

/-!
# C25 — rbs2json conversion is deterministic and keeps the signature shape

* `rbs_perm`: whatever order Go's maps yield the keyword parameters in, `convertArguments` emits
  the same list (names distinct, as map keys are) — proved for *any* sorted permutation, not just
  the insertion sort of the model.
* `rbs_shape`: the emitted list is required positionals, optional positionals (`is_default`), the
  rest parameter (`is_asterisk`), trailing positionals, required keywords, optional keywords
  (`is_default`), in that order; keywords carry `name:` keys, positionals none.
The conversion of types and the arity ti derives from the emitted JSON are checked end-to-end.
-/
namespace RubyTi.C25
open RubyTi RubyTi.Args RubyTi.Rbs

def kwLe (a b : Str × Param) : Prop := strLe a.1 b.1 = true

theorem insertKw_perm (x : Str × Param) (l : List (Str × Param)) : (insertKw x l).Perm (x :: l) :=
  kwSorted_isSort.insert_perm x l

theorem kwSorted_perm (l : List (Str × Param)) : (kwSorted l).Perm l :=
  kwSorted_isSort.sort_perm l

theorem insertKw_sorted (x : Str × Param) (l : List (Str × Param)) (h : l.Pairwise kwLe) :
    (insertKw x l).Pairwise kwLe :=
  kwSorted_isSort.insert_sorted (fun _ _ => strLt_asymm _ _) (fun _ _ _ => strLe_trans _ _ _) x l h

theorem kwSorted_sorted (l : List (Str × Param)) : (kwSorted l).Pairwise kwLe :=
  kwSorted_isSort.sort_sorted (fun _ _ => strLt_asymm _ _) (fun _ _ _ => strLe_trans _ _ _) l

/-- any two name-sorted permutations of the same keyword map (distinct names) are equal -/
theorem sorted_kw_unique (s₁ s₂ : List (Str × Param)) (hp : s₁.Perm s₂)
    (h₁ : s₁.Pairwise kwLe) (h₂ : s₂.Pairwise kwLe) (hk : (s₁.map (·.1)).Nodup) : s₁ = s₂ :=
  Sorting.sorted_perm_unique (strLe · · = true) strLe_antisymm Prod.fst hp h₁ h₂ hk

/-- **Determinism**: the order in which the keyword maps are iterated does not matter. -/
theorem rbs_perm (f : FuncType) (rk ok : List (Str × Param))
    (hr : rk.Perm f.requiredKw) (ho : ok.Perm f.optionalKw)
    (hrk : (f.requiredKw.map (·.1)).Nodup) (hok : (f.optionalKw.map (·.1)).Nodup) :
    convertArguments { f with requiredKw := rk, optionalKw := ok } = convertArguments f := by
  have e {a b : List (Str × Param)} (h : a.Perm b) (hk : (b.map (·.1)).Nodup) : kwSorted a = kwSorted b :=
    sorted_kw_unique _ _ ((kwSorted_perm a).trans (h.trans (kwSorted_perm b).symm)) (kwSorted_sorted _)
      (kwSorted_sorted _) (((kwSorted_perm a).trans h).map (·.1) |>.nodup_iff.mpr hk)
  simp only [convertArguments, keywords, e hr hrk, e ho hok]

/-- **Shape**: positionals (no key) first, then keywords; among positionals required, optional
(`is_default`), rest (`is_asterisk`), trailing; among keywords required before optional. -/
theorem rbs_shape (f : FuncType) :
    ∃ req opt rest trail rkw okw,
      convertArguments f = req ++ opt ++ rest ++ trail ++ rkw ++ okw ∧
      (∀ a ∈ req, a.key = [] ∧ a.isDefault = false ∧ a.isAsterisk = false) ∧
      (∀ a ∈ opt, a.key = [] ∧ a.isDefault = true ∧ a.isAsterisk = false) ∧
      (∀ a ∈ rest, a.key = [] ∧ a.isAsterisk = true) ∧ rest.length ≤ 1 ∧
      (∀ a ∈ trail, a.key = [] ∧ a.isDefault = false ∧ a.isAsterisk = false) ∧
      (∀ a ∈ rkw, a.key ≠ [] ∧ a.key.getLast? = some ':' ∧ a.isDefault = false) ∧
      (∀ a ∈ okw, a.key ≠ [] ∧ a.key.getLast? = some ':' ∧ a.isDefault = true) := by
  refine ⟨positionals f.required false, positionals f.optional true,
    (match f.rest with | none => [] | some p => [{ type := p.getD [], isAsterisk := true }]),
    positionals f.trailing false, keywords f.requiredKw false, keywords f.optionalKw true, rfl,
    fun _ => mem_positionals, fun _ => mem_positionals, ?_, ?_, fun _ => mem_positionals, fun _ => mem_keywords,
    fun _ => mem_keywords⟩
  · intro a ha; cases hr : f.rest <;> simp [hr] at ha; subst ha; simp
  · cases f.rest <;> simp

/-- non-vacuity: two keyword parameters given in both orders -/
example :
    let f : FuncType := { required := [some ["Int".toList]], requiredKw := [("b".toList, some ["String".toList]), ("a".toList, some ["Int".toList])] }
    convertArguments { f with requiredKw := f.requiredKw.reverse } = convertArguments f ∧
    (f.requiredKw.map (·.1)).Nodup := by decide

end RubyTi.C25
