import RubyTi.Proofs.TokenLemmas
import RubyTi.Props.C03
import RubyTi.Gen.Loops

/-!
# C02 — Analysis terminates on every finite input without the watchdog

What is proved here (the evaluator itself is not modelled):

* the lexer part is C03 (`C03.tokens_terminate`, every loop of lexer.go is a structural recursion);
* **token layer**: for *every* sequence of `Read / Unget / Skip / ReadAhead` calls a client
  (any evaluator loop) can issue, the number of token requests that succeed is bounded by
  `|pending input| + #ungets + 1000`: a request either consumes the unget flag, or strictly
  shrinks the pending input, or is counted against the end-of-input budget whose exhaustion
  unwinds the analysis (`ErrUnexpectedEOF`, recovered in main). So no client loop that asks for
  a token in each iteration — without handing one back each time — can spin forever;
* once the end of input has been reached every further request is charged to the budget.
-/
namespace RubyTi.C02
open RubyTi RubyTi.Lexer RubyTi.Token

/-- the operations the evaluators perform on the token layer -/
inductive Op where
  | read | readAhead | skip | unget
  deriving Repr, DecidableEq

def Op.isRequest : Op → Bool
  | .unget => false
  | _ => true

def Op.ungets : Op → Nat
  | .unget => 1
  | .readAhead => 1
  | _ => 0

/-- run one op; `none` = the analysis was unwound by ErrUnexpectedEOF -/
def step (bc : List (List Rune)) (p : PState) : Op → Option PState
  | .read => (Token.read bc p).map (·.2)
  | .readAhead => (readAhead bc p).map (·.2)
  | .skip => skip p
  | .unget => some (unget p)

def run (bc : List (List Rune)) : List Op → PState → Option PState
  | [], p => some p
  | o :: os, p => match step bc p o with
    | none => none
    | some p' => run bc os p'

/-- potential: pending input + outstanding unget + what is left of the end-of-input budget -/
def phi (p : PState) : Nat :=
  p.lx.pending.length + (if p.ungetFlg then 1 else 0) + (maxEOSReads - p.eosReads)

theorem countEOS_spec {p p' : PState} (h : countEOS p = some p') :
    p'.eosReads = p.eosReads + 1 ∧ p'.eosReads ≤ maxEOSReads ∧ p'.lx = p.lx ∧ p'.ungetFlg = p.ungetFlg ∧ p'.token = p.token := by
  obtain ⟨hlt, rfl⟩ := countEOS_eq_some.mp h
  exact ⟨rfl, hlt, rfl, rfl, rfl⟩

/-- **One token request strictly decreases the potential.** -/
theorem getToken_phi {p p' : PState} (h : getToken p = some p') (hb : p.eosReads ≤ maxEOSReads) :
    phi p' < phi p ∧ p'.eosReads ≤ maxEOSReads ∧ p'.ungetFlg = false := by
  cases hf : p.ungetFlg
  · have hsuf := advance_suffix p.lx
    cases ha : (advance p.lx).1
    · -- end of input: charged to the budget
      obtain ⟨hlt, rfl⟩ := getToken_eos hf ha h
      have := hsuf.1.length_le
      simp [phi, hf]; omega
    · -- a fresh token: the pending input shrinks
      cases getToken_fresh hf ha h
      have := hsuf.2 ha
      simp [phi, deliver, hf]; omega
  · -- re-delivery: the unget flag is consumed
    rcases getToken_unget hf h with ⟨-, rfl⟩ | ⟨-, hlt, rfl⟩ <;> simp [phi, redeliver, hf] <;> omega

/-- a token request that comes back with EOS is charged to the budget -/
theorem getToken_eos_charged {p p' : PState} (h : getToken p = some p') (he : p'.token = EOS)
    (hnl : (10 : Int) ≠ EOS := by decide) : p'.eosReads = p.eosReads + 1 ∨ (p.ungetFlg = false ∧ (advance p.lx).1 = true) := by
  cases hf : p.ungetFlg
  · cases ha : (advance p.lx).1
    · exact .inl (by rw [(getToken_eos hf ha h).2])
    · exact .inr ⟨rfl, rfl⟩
  · rcases getToken_unget hf h with ⟨hne, rfl⟩ | ⟨-, -, rfl⟩
    · exact absurd he hne
    · exact .inl rfl

theorem read_phi {bc p o p'} (h : Token.read bc p = some (o, p')) (hb : p.eosReads ≤ maxEOSReads) :
    phi p' < phi p ∧ p'.eosReads ≤ maxEOSReads ∧ p'.ungetFlg = false := by
  obtain ⟨q, hq, hp⟩ := read_spec h
  have := getToken_phi hq hb
  rcases hp with ⟨-, rfl⟩ | ⟨-, rfl⟩ | ⟨-, rfl, -⟩ <;> exact this

theorem step_phi {bc p o p'} (h : step bc p o = some p') (hb : p.eosReads ≤ maxEOSReads) :
    phi p' + (if o.isRequest then 1 else 0) ≤ phi p + o.ungets ∧ p'.eosReads ≤ maxEOSReads := by
  cases o with
  | read =>
    obtain ⟨⟨o', _⟩, hr, rfl⟩ := Option.map_eq_some_iff.mp h
    have := read_phi hr hb
    simp [Op.isRequest, Op.ungets]; omega
  | readAhead =>
    obtain ⟨⟨o', _⟩, hr, rfl⟩ := Option.map_eq_some_iff.mp h
    obtain ⟨q, hq, hp⟩ := readAhead_state hr
    have := read_phi hq hb
    rcases hp with rfl | rfl <;> simp [Op.isRequest, Op.ungets, phi, unget, this.2.2] at this ⊢ <;> omega
  | skip =>
    have := getToken_phi h hb
    simp [Op.isRequest, Op.ungets]; omega
  | unget =>
    cases h
    simp [Op.isRequest, Op.ungets, phi, unget]
    exact ⟨by split <;> omega, hb⟩
/-- **EOS budget / request bound**: in every run that is not unwound, the number of token
requests is at most the initial potential plus the number of tokens handed back. -/
theorem requests_bounded (bc : List (List Rune)) (ops : List Op) (p p' : PState)
    (hb : p.eosReads ≤ maxEOSReads) (h : run bc ops p = some p') :
    (ops.filter Op.isRequest).length ≤ phi p + (ops.map Op.ungets).sum := by
  induction ops generalizing p with
  | nil => simp
  | cons o os ih =>
    simp only [run] at h
    split at h
    · cases h
    · rename_i q hq
      have hs := step_phi hq hb
      have := ih q hs.2 h
      simp only [List.filter_cons, List.map_cons, List.sum_cons]
      split <;> rename_i hr <;> simp [hr] at hs ⊢ <;> omega

/-- Corollary for a whole file: from the initial parser state, any client that never hands a
token back makes at most `|input| + 1000` successful token requests. -/
theorem requests_bounded_no_unget (bc : List (List Rune)) (input : List Rune) (ops : List Op) (p' : PState)
    (hno : (ops.map Op.ungets).sum = 0)
    (h : run bc ops { lx := { pending := input.filter (· != 0) } } = some p') :
    (ops.filter Op.isRequest).length ≤ input.length + maxEOSReads := by
  have := requests_bounded bc ops _ p' (by simp [maxEOSReads]) h
  have hl := List.length_filter_le (fun (x : Rune) => x != 0) input
  simp [phi, hno] at this
  omega

/-- the lexer half (every loop of lexer.go ends; the token loop reaches EOS) -/
theorem lexer_terminates (input : List Rune) : (Lexer.tokens input).2.1 = true :=
  C03.tokens_terminate input

/-- condition-less loops that do not request a token; each is index-driven over a finite list
(reviewed by hand): the destructuring loops of bind.go, the chained-return walk of def.go,
`splatArg`, the binder loop of `checkAndPropagateArgs` and `doubleAsteriskDefineProcess`. -/
def reviewedBounded : List (String × String × Nat) :=
  [("eval/bind.go", "handleMultipleToMultipleAsigntment", 1),
   ("eval/bind.go", "handleMultipleToMultipleAsigntment", 2),
   ("eval/bind.go", "handleMultipleToScalarAsigntment", 1),
   ("eval/def.go", "getChainMethodReturnType", 1),
   ("eval/method_evaluator/argument_process.go", "splatArg", 1),
   ("eval/method_evaluator/type_process.go", "checkAndPropagateArgs", 1),
   ("eval/method_evaluator/type_process.go", "doubleAsteriskDefineProcess", 1)]

/-- Every condition-less `for` loop of eval/, eval/method_evaluator/ and parser/ (table regenerated
from the working tree) requests a token in its body — so `requests_bounded` bounds its iterations
unless it hands a token back each time — or is on the reviewed list. A new loop that neither
reads nor is reviewed breaks this obligation. -/
theorem loops_request_tokens :
    ∀ l ∈ Gen.loops, l.2.2.2 = true ∨ (l.1, l.2.1, l.2.2.1) ∈ reviewedBounded := by decide +kernel

/-- non-vacuity: the initial parser state meets the budget hypothesis, and op lists without
hand-backs exist -/
example : ({} : PState).eosReads ≤ maxEOSReads ∧ ([Op.read, .skip, .read].map Op.ungets).sum = 0 := by
  simp [maxEOSReads, Op.ungets]

end RubyTi.C02
