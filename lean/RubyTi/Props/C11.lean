import RubyTi.Props.C12

/-!
# C11 — independent code does not change the analysis of other code (table-level core)

A fragment that shares no user-defined names with the host program, defines no classes or methods
and does not reopen builtin classes performs, on the table model of the analysis
(`Model/Analysis.lean`), only writes to keys the host never looks up and calls of configured
methods. For every initial table, every such operation sequence and every key outside the
fragment's own keys:
* `fragment_invisible`: the lookup gives what it gave without the fragment — configured
  declarations (C12's `builtin_invariant`) and the host's own variables and methods alike;
* `host_call_unaffected`: the type a host call of a configured method computes is the same with
  and without the fragment before it.
Block scopes and narrowing restore what they touched (C17 `block_local_invisible`,
`shadow_restored`; C10 `restore_spec`). What is NOT a table — the parser's flags and its last
evaluated value at a statement boundary — is checked end-to-end by inserting generated fragments at
every eligible boundary of corpus and generated programs; one such leak (a statement starting with
`[` indexed the previous statement's value) was repaired by a `fix:` commit.
-/
namespace RubyTi.C11
open RubyTi RubyTi.Frame RubyTi.Analysis

/-- the keys a fragment writes -/
def writtenKeys : List Op → List FrameKey
  | [] => []
  | .write k _ :: rest => k :: writtenKeys rest
  | .call .. :: rest => writtenKeys rest

theorem step_other (s : Store) (op : Op) (q : FrameKey) (h : q ∉ writtenKeys [op]) :
    lookup (step s op).1 q = lookup s q := by
  cases op with
  | write k v => exact lookup_insert_other _ _ _ _ (fun e => h (by simp [writtenKeys, e]))
  | call k recv args => simp only [step]; split <;> rfl

/-- **a fragment is invisible at every key it does not write** -/
theorem fragment_invisible (s : Store) (frag : List Op) (q : FrameKey) (h : q ∉ writtenKeys frag) :
    lookup (run s frag) q = lookup s q := by
  induction frag generalizing s with
  | nil => rfl
  | cons op rest ih =>
    have hq : q ∉ writtenKeys [op] ∧ q ∉ writtenKeys rest := by cases op <;> simpa [writtenKeys] using h
    exact (ih _ hq.2).trans (step_other s op q hq.1)

/-- a host call of a configured method computes the same type with the fragment before it -/
theorem host_call_unaffected (s : Store) (frag : List Op) (k : FrameKey) (hk : k ∉ writtenKeys frag)
    (recv : T) (args : List T) :
    (step (run s frag) (.call k recv args)).2 = (step s (.call k recv args)).2 := by
  simp only [step, fragment_invisible s frag k hk]
  cases lookup s k <;> rfl

example :
    let k : FrameKey := valueKey [] [] [] "hostvar".toList false
    let frag := [Op.write (valueKey [] [] [] "zf1".toList false) T.makeAnyString]
    k ∉ writtenKeys frag := by decide

end RubyTi.C11
