import RubyTi.Proofs.ConfigLemmas

/-!
# C21 — equivalent type notations in `.ti-config` mean the same thing

Every equivalence is stated as *equality of the parsed value* (`T`, or the parsed argument), for
every plain type name (`plain`: non-empty, none of `| [ ] ? * :` and no white space) — so every
diagnostic, inferred type and rendered signature that is computed from the parsed value coincides.
`ConvertToBuiltinT`'s table and the builtin variable block are regenerated from the source;
`parseTypeString` is defined by well-founded recursion on the length of the string (its
termination proof is part of the model).
Facts about concrete names are closed terms. They are evaluated by the kernel (`decide +kernel`), or
by `rfl` once `String.reduceToList` has turned the string literals into lists of characters: the
elaborator's own evaluation of `String.toList`, and of the Unicode table behind `isSpaceC`, is slow.
-/
namespace RubyTi.C21
open RubyTi RubyTi.Config

/-- `"A|B|…"` ≡ `["A","B",…]` (any number ≥ 2 of plain names), as a type string. -/
theorem union_string (parts : List Str) (hp : ∀ p ∈ parts, plain p = true) (h2 : parts.length ≥ 2) :
    parseTypeString (joinBar parts) = T.makeUnion (parts.map parseTypeString) := by
  match parts, h2 with
  | a :: b :: rest, _ =>
    rw [parseTypeString_of_head (plain_head_joinBar _ (hp a (by simp))), if_pos (by simp [joinBar]),
      splitOnChar_joinBar (fun p h => plain_not_mem (hp p h) rfl) (by simp)]
    exact congrArg _ (List.map_congr_left fun p h => by rw [trimSpace_plain (hp p h)])

/-- … as a return type … -/
theorem union_return (parts : List Str) (hp : ∀ p ∈ parts, plain p = true) (h2 : parts.length ≥ 2)
    (c d o : Bool) :
    parseReturnType { type := .single (joinBar parts), isConditional := c, isDestructive := d, isCaptureOwner := o } =
    parseReturnType { type := .many parts, isConditional := c, isDestructive := d, isCaptureOwner := o } := by
  match parts, h2 with
  | a :: b :: rest, h2 =>
    simp only [parseReturnType, TypeSpecJ.toList]
    rw [union_string (a :: b :: rest) hp h2]

/-- … and as an argument type (any key / asterisk / default flags). -/
theorem union_argument (parts : List Str) (hp : ∀ p ∈ parts, plain p = true) (h2 : parts.length ≥ 2)
    (key : Str) (ast dflt : Bool) :
    parseArgument { type := .single (joinBar parts), key := key, isAsterisk := ast, isDefault := dflt } =
    parseArgument { type := .many parts, key := key, isAsterisk := ast, isDefault := dflt } := by
  match parts, h2 with
  | a :: b :: rest, h2 =>
    have hns : isNameSpace (joinBar (a :: b :: rest)) = false :=
      isNameSpace_noColon _ (not_mem_joinBar (by decide) fun p h => plain_not_mem (hp p h) rfl)
    simp only [parseArgument]
    rw [parseArgBase_single (plain_head_joinBar _ (hp a (by simp))) hns, parseArgBase_many _ h2,
      union_string _ hp h2]

/-- a plain name is looked up in the table directly -/
theorem plain_is_lookup (t : Str) (ht : plain t = true) : parseTypeString t = convertToBuiltinT t :=
  parseTypeString_plain ht

/-- `"?T"` as a return type ≡ `[T, "NilClass"]` -/
theorem optional_return (t : Str) (ht : plain t = true) (c d o : Bool) :
    parseReturnType { type := .single ('?' :: t), isConditional := c, isDestructive := d, isCaptureOwner := o } =
    parseReturnType { type := .many [t, "NilClass".toList], isConditional := c, isDestructive := d, isCaptureOwner := o } := by
  have h2 : parseTypeString "NilClass".toList = NilT := by
    rw [parseTypeString_plain (by decide +kernel)]
    rfl
  simp only [parseReturnType, TypeSpecJ.toList, List.map, parseTypeString_optional (plain_ne_nil ht), h2]

/-- `"?T"` as an argument ≡ `T` with `is_default` -/
theorem optional_argument (t : Str) (ht : plain t = true) (key : Str) (ast dflt : Bool) :
    parseArgument { type := .single ('?' :: t), key := key, isAsterisk := ast, isDefault := dflt } =
    parseArgument { type := .single t, key := key, isAsterisk := ast, isDefault := true } := by
  simp only [parseArgument]
  rw [parseArgBase_optional (plain_not_mem ht rfl) (plain_not_mem ht rfl), parseArgBase_plain ht,
    parseTypeString_plain ht]
  cases convertToBuiltinT t
  simp [T.setFl, argFlags]

/-- `"*T"` ≡ `T` with `is_asterisk` -/
theorem asterisk_argument (t : Str) (ht : plain t = true) (key : Str) (ast dflt : Bool) :
    parseArgument { type := .single ('*' :: t), key := key, isAsterisk := ast, isDefault := dflt } =
    parseArgument { type := .single t, key := key, isAsterisk := true, isDefault := dflt } := by
  simp only [parseArgument]
  rw [parseArgBase_asterisk (plain_not_mem ht rfl) (plain_not_mem ht rfl), parseArgBase_plain ht,
    parseTypeString_plain ht]

/-- `"[T]"` ≡ an array whose element type is `T` -/
theorem array_notation (t : Str) (ht : plain t = true) :
    parseTypeString ('[' :: (t ++ [']'])) = T.makeArray [parseTypeString t] :=
  parseTypeString_array (plain_ne_nil ht)

/-- … in particular `"[String]"`, `"[Int]"`, `"[Float]"` are `StringArray`, `IntArray`, `FloatArray` -/
theorem array_aliases :
    parseTypeString ('[' :: ("String".toList ++ [']'])) = convertToBuiltinT "StringArray".toList ∧
    parseTypeString ('[' :: ("Int".toList ++ [']'])) = convertToBuiltinT "IntArray".toList ∧
    parseTypeString ('[' :: ("Float".toList ++ [']'])) = convertToBuiltinT "FloatArray".toList := by
  have h {x : Str} (hp : plain x = true) :
      parseTypeString ('[' :: (x ++ [']'])) = T.makeArray [convertToBuiltinT x] := by
    rw [array_notation x hp, parseTypeString_plain hp]
  simp only [String.reduceToList]
  exact ⟨(h (by decide +kernel)).trans rfl, (h (by decide +kernel)).trans rfl,
    (h (by decide +kernel)).trans rfl⟩

/-- `"Int"` ≡ `"Integer"` -/
theorem int_integer : convertToBuiltinT "Int".toList = convertToBuiltinT "Integer".toList := by
  simp only [String.reduceToList]
  rfl

/-- `OptionalX` ≡ `[X, "NilClass"]` (≡ `"?X"` as a return type by `optional_return`) -/
theorem optional_aliases :
    ∀ x ∈ ["String".toList, "Int".toList, "Float".toList],
      convertToBuiltinT ("Optional".toList ++ x) = T.makeUnion [convertToBuiltinT x, NilT] := by
  simp only [String.reduceToList, List.forall_mem_cons]
  exact ⟨rfl, rfl, rfl, nofun⟩

/-- `DefaultX` as an argument ≡ `X` with `is_default` -/
theorem default_aliases (key : Str) (ast dflt : Bool) :
    ∀ x ∈ ["String".toList, "Int".toList, "Float".toList, "Bool".toList, "Block".toList, "Untyped".toList],
      parseArgument { type := .single ("Default".toList ++ x), key := key, isAsterisk := ast, isDefault := dflt } =
      parseArgument { type := .single x, key := key, isAsterisk := ast, isDefault := true } := by
  intro x hx
  have ht : (convertToBuiltinT ("Default".toList ++ x)).setFl (argFlags ast dflt) =
      (convertToBuiltinT x).setFl (argFlags ast true) := by
    revert x
    simp only [String.reduceToList, List.forall_mem_cons]
    exact ⟨rfl, rfl, rfl, rfl, rfl, rfl, nofun⟩
  have hp : plain ("Default".toList ++ x) = true ∧ plain x = true := by
    clear ht
    revert x
    decide +kernel
  simp only [parseArgument]
  rw [parseArgBase_plain hp.1, parseArgBase_plain hp.2, ht]

/-- non-vacuity: `plain` is satisfied by ordinary class names -/
example : plain "String".toList = true ∧ plain "MyClass".toList = true ∧ plain "A|B".toList = false := by
  decide +kernel

end RubyTi.C21
