import RubyTi.Model.Frame
import RubyTi.Props.C21
import RubyTi.Gen.LoaderFacts

/-!
# C19 — config file names and splitting do not matter (table-level core)

`.ti-config/*.json` files are loaded in file-name order; each declaration ends in writes to the
global Go map `TFrame` (methods, argument values, constants, instance variables) and to
`ClassInheritanceMap`. What can be proved on the map model, for every table and every list of
writes: a sequence of writes to **pairwise distinct keys** produces the same map whatever the
order (`writes_perm`) — so renaming the files (any permutation of the load order) or splitting a
class's declarations over several files cannot change any lookup, provided no key is written
twice and no definition-time lookup finds an earlier declaration. The two ways the real loader
leaves that regime are stated as the hypothesis `hk` and recorded as known findings: overloads
(the same method declared twice: the first becomes the primary signature) and a method that an
already-loaded ancestor or the Builtin frame also declares (it is attached there as an overload).
The per-declaration parsing is C21's model.
`loader_reads_reviewed` pins down (regenerated from the source each run) which global state the
loader READS while loading: only `ClassInheritanceMap[node]` (duplicate-edge check) and
`TSignatureDocument[key]` (keep a non-empty document) — both reads of the key being written, never
of what OTHER files wrote; a new read (for example of `BuiltinClasses`, which grows file by file)
breaks this obligation.
-/
namespace RubyTi.C19
open RubyTi RubyTi.Frame

def applyWrites {κ ν} [DecidableEq κ] (t : Table κ ν) (ws : List (κ × ν)) : Table κ ν :=
  ws.foldl (fun acc w => insert acc w.1 w.2) t

theorem lookup_applyWrites_notin {κ ν} [DecidableEq κ] (t : Table κ ν) (ws : List (κ × ν)) (q : κ)
    (h : q ∉ ws.map (·.1)) : lookup (applyWrites t ws) q = lookup t q := by
  rw [applyWrites, lookup_foldl_insert, List.find?_eq_none.mpr]
  intro w hw e
  exact h (List.mem_map.mpr ⟨w, List.mem_reverse.mp hw, by simpa using e⟩)

theorem lookup_applyWrites_in {κ ν} [DecidableEq κ] (t : Table κ ν) (ws : List (κ × ν))
    (hk : (ws.map (·.1)).Nodup) (w : κ × ν) (hw : w ∈ ws) : lookup (applyWrites t ws) w.1 = some w.2 := by
  induction ws generalizing t with
  | nil => cases hw
  | cons x rest ih =>
    rw [List.map_cons, List.nodup_cons] at hk
    rcases List.mem_cons.mp hw with rfl | hw
    · exact (lookup_applyWrites_notin _ rest _ hk.1).trans (lookup_insert_self t _ _)
    · exact ih _ hk.2 hw

/-- **Load order is irrelevant for writes to distinct keys**: any permutation of the writes gives
a map with the same answer to every lookup. -/
theorem writes_perm {κ ν} [DecidableEq κ] (t : Table κ ν) (w₁ w₂ : List (κ × ν)) (hp : w₁.Perm w₂)
    (hk : (w₁.map (·.1)).Nodup) (q : κ) :
    lookup (applyWrites t w₁) q = lookup (applyWrites t w₂) q := by
  have hk₂ : (w₂.map (·.1)).Nodup := (hp.map (·.1)).nodup_iff.mp hk
  by_cases hq : q ∈ w₁.map (·.1)
  · obtain ⟨w, hw, rfl⟩ := List.mem_map.mp hq
    rw [lookup_applyWrites_in t w₁ hk w hw, lookup_applyWrites_in t w₂ hk₂ w (hp.subset hw)]
  · have hq₂ : q ∉ w₂.map (·.1) := fun h => hq ((hp.map (·.1)).symm.subset h)
    rw [lookup_applyWrites_notin t w₁ q hq, lookup_applyWrites_notin t w₂ q hq₂]

/-- splitting: loading `a ++ b` is loading `a` then `b` (files are just a partition of the writes) -/
theorem split_is_sequence {κ ν} [DecidableEq κ] (t : Table κ ν) (a b : List (κ × ν)) :
    applyWrites t (a ++ b) = applyWrites (applyWrites t a) b := by
  simp [applyWrites, List.foldl_append]

/-- the refuted full statement: with the SAME key written twice the order is observable
(the loader keeps the first declaration as the primary signature) -/
theorem same_key_order_matters :
    ∃ (w₁ w₂ : List (Nat × Nat)), w₁.Perm w₂ ∧ lookup (applyWrites [] w₁) 0 ≠ lookup (applyWrites [] w₂) 0 :=
  ⟨[(0, 1), (0, 2)], [(0, 2), (0, 1)], List.Perm.swap _ _ _, by decide⟩

/-- non-vacuity -/
example : (([(1, 10), (2, 20), (3, 30)] : List (Nat × Nat)).map (·.1)).Nodup := by decide

/-- the loader's reads of global state, as extracted from builtin/json_loader.go now, are the reviewed ones -/
theorem loader_reads_reviewed :
    Gen.loaderReads = [("ClassInheritanceMap", 1), ("TSignatureDocument", 2)] := by decide +kernel

end RubyTi.C19
