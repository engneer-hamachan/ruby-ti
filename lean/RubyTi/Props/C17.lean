import RubyTi.Model.Scope
import RubyTi.Gen.BlockFacts
import RubyTi.Props.C19

/-!
# C17 — block parameters get declared types and block locals stay local (scope core)

For **every** sequence of writes the evaluator performs inside a block:
* `block_local_invisible`: a variable first assigned inside the block (its key is not in the
  snapshot taken at block entry) and not written back by the restore list is absent afterwards;
* `outer_variable_kept`: a variable that existed before the block keeps whatever the block last
  assigned to it (Ruby closures may assign outer variables), unless it is a shadowing parameter;
* `shadow_restored`: a block parameter that shadowed an outer variable gets its previous value
  back (restore list = the saved (key, value) pairs, distinct keys);
* `surplus_nil` / `param_bound`: the i-th block variable is bound to the i-th resolved block
  parameter type, surplus variables to nil (for distinct variable names).
Resolution of the declared `block_parameters` against the receiver (`Unify`, `Item`, `Flatten`, …)
is checked end-to-end.
-/
namespace RubyTi.C17
open RubyTi RubyTi.Frame RubyTi.Scope

variable {κ ν : Type} [DecidableEq κ]

theorem writes_eq (t : Table κ ν) (ws : List (κ × ν)) : writes t ws = C19.applyWrites t ws := rfl

/-- **Block locals stay local**, whatever the block does. -/
theorem block_local_invisible (snap : Table κ ν) (inside restore : List (κ × ν)) (k : κ)
    (hk : hasKey snap k = false) (hr : k ∉ restore.map (·.1)) :
    lookup (blockExit (writes snap inside) snap restore) k = none := by
  unfold blockExit
  rw [writes_eq, C19.lookup_applyWrites_notin _ _ _ hr, restoreFrame, lookup_filter_key]
  simp [hk]

/-- outer variables keep what the block assigned to them -/
theorem outer_variable_kept (snap : Table κ ν) (inside restore : List (κ × ν)) (k : κ)
    (hk : hasKey snap k = true) (hr : k ∉ restore.map (·.1)) :
    lookup (blockExit (writes snap inside) snap restore) k = lookup (writes snap inside) k := by
  unfold blockExit
  rw [writes_eq, C19.lookup_applyWrites_notin _ _ _ hr, restoreFrame, lookup_filter_key]
  simp [hk]

/-- a shadowed outer variable gets its previous value back -/
theorem shadow_restored (snap : Table κ ν) (inside restore : List (κ × ν)) (w : κ × ν)
    (hw : w ∈ restore) (hd : (restore.map (·.1)).Nodup) :
    lookup (blockExit (writes snap inside) snap restore) w.1 = some w.2 := by
  unfold blockExit
  rw [writes_eq]
  exact C19.lookup_applyWrites_in _ restore hd w hw

theorem lookup_bindParams_notin (t : Table κ ν) (vars : List κ) (params : List ν) (nilT : ν) (q : κ)
    (h : q ∉ vars) : lookup (bindParams t vars params nilT) q = lookup t q := by
  induction vars generalizing t params with
  | nil => cases params <;> rfl
  | cons v vs ih =>
    rw [List.mem_cons, not_or] at h
    rw [bindParams_cons, ih _ _ h.2, lookup_insert_other _ _ _ _ (Ne.symm h.1)]

/-- the i-th block variable is bound to the i-th block parameter type; surplus variables to nil -/
theorem param_bound (t : Table κ ν) (vars : List κ) (params : List ν) (nilT : ν) (hd : vars.Nodup)
    (i : Nat) (hi : i < vars.length) :
    lookup (bindParams t vars params nilT) vars[i] = some (params.getD i nilT) := by
  induction vars generalizing t params i with
  | nil => simp at hi
  | cons v vs ih =>
    rw [List.nodup_cons] at hd
    rw [bindParams_cons]
    cases i with
    | zero => rw [List.getElem_cons_zero, lookup_bindParams_notin _ _ _ _ _ hd.1, lookup_insert_self]; cases params <;> rfl
    | succ j => rw [List.getElem_cons_succ, ih _ _ hd.2 j (by simpa using hi)]; cases params <;> simp

/-- surplus block variables are nil -/
theorem surplus_nil (t : Table κ ν) (vars : List κ) (params : List ν) (nilT : ν) (hd : vars.Nodup)
    (i : Nat) (hi : i < vars.length) (hs : params.length ≤ i) :
    lookup (bindParams t vars params nilT) vars[i] = some nilT := by
  rw [param_bound t vars params nilT hd i hi]
  simp [List.getD, List.getElem?_eq_none hs]

/-- **The loop the source has now is the modelled loop**: the switches the extractor reads off
`Do.setBlockParameters` (guard `len(blockParameters) <= idx`, surplus branch binds nil and goes on,
other branch binds `&blockParameters[idx]` and goes on) make the regenerated loop equal to `bindParams`,
for every table, variable list and parameter list. A `break`/`return` in either branch, a changed guard or
a changed bound value flips a switch and this theorem no longer checks. -/
theorem generated_loop_is_bindParams (t : Table κ ν) (vars : List κ) (params : List ν) (nilT : ν) :
    bindParamsG Gen.blockSurplusGuard Gen.blockSurplusBindsNil Gen.blockSurplusGoesOn
      Gen.blockBoundBindsIdx Gen.blockBoundGoesOn t vars params nilT = bindParams t vars params nilT :=
  bindParamsG_all t vars params nilT

/-- surplus variables are nil in the regenerated loop -/
theorem generated_surplus_nil (t : Table κ ν) (vars : List κ) (params : List ν) (nilT : ν) (hd : vars.Nodup)
    (i : Nat) (hi : i < vars.length) (hs : params.length ≤ i) :
    lookup (bindParamsG Gen.blockSurplusGuard Gen.blockSurplusBindsNil Gen.blockSurplusGoesOn
      Gen.blockBoundBindsIdx Gen.blockBoundGoesOn t vars params nilT) vars[i] = some nilT := by
  rw [generated_loop_is_bindParams]; exact surplus_nil t vars params nilT hd i hi hs

/-- what a `break` after the first surplus variable would do (the loop with `sOn = false`): the third of
three variables on a one-value method stays unbound -/
example : lookup (bindParamsG true true false true true ([] : Table Nat Nat) [1, 2, 3] [7] 0) 3 = none := by decide

/-- non-vacuity: a block that assigns a fresh local and an outer variable, with one shadowing parameter -/
example :
    let snap : Table Nat Nat := [(1, 10), (2, 20)]
    let inside := [(3, 30), (1, 11), (2, 99)]
    let out := blockExit (writes snap inside) snap [(2, 20)]
    lookup out 3 = none ∧ lookup out 1 = some 11 ∧ lookup out 2 = some 20 := by decide

end RubyTi.C17
