import RubyTi.Proofs.ArgsLemmas

/-!
# C14 — keyword argument order at a call site is irrelevant

`prioritizeArgTs` runs before anything looks at the arguments (binding, arity and type checks,
propagation into the callee). Its result is specified as *any* list `positional ++ s` where `s` is
a permutation of the keyword arguments sorted by key (`IsPrioritized`; nothing is assumed about
which sorting algorithm `sort.Slice` uses, nor that it is stable).
Theorem `kwargs_order_irrelevant`: if two call sites have the same positional arguments in the same
order and the same keyword arguments (as a multiset) with pairwise distinct keys, then **every**
admissible result for the one equals **every** admissible result for the other — so everything
downstream (`checkAndPropagateArgs`, diagnostics, inferred types) coincides.
Duplicate keys are outside the property's statement.
-/
namespace RubyTi.C14
open RubyTi RubyTi.Args

/-- the executable model is an admissible result -/
theorem prioritize_is_prioritized {α} (l : List (Arg α)) : IsPrioritized l (prioritize l) :=
  ⟨sortByKey (named l), rfl, sortByKey_perm _, sortByKey_sorted _⟩

/-- two key-sorted permutations of the same keyword arguments with distinct keys are equal -/
theorem sorted_perm_unique {α} (s₁ s₂ : List (Arg α)) (hp : s₁.Perm s₂)
    (h₁ : s₁.Pairwise leK) (h₂ : s₂.Pairwise leK)
    (hk : (s₁.map keyOf).Nodup) : s₁ = s₂ :=
  Sorting.sorted_perm_unique (strLe · · = true) strLe_antisymm keyOf hp h₁ h₂ hk

/-- **Keyword order is irrelevant.** -/
theorem kwargs_order_irrelevant {α} (a₁ a₂ o₁ o₂ : List (Arg α))
    (hpos : positional a₁ = positional a₂)
    (hnamed : (named a₁).Perm (named a₂))
    (hk : ((named a₁).map keyOf).Nodup)
    (h₁ : IsPrioritized a₁ o₁) (h₂ : IsPrioritized a₂ o₂) : o₁ = o₂ := by
  obtain ⟨s₁, rfl, p₁, w₁⟩ := h₁
  obtain ⟨s₂, rfl, p₂, w₂⟩ := h₂
  have hperm : s₁.Perm s₂ := p₁.trans (hnamed.trans p₂.symm)
  have hk₁ : (s₁.map keyOf).Nodup := (p₁.map keyOf).nodup_iff.mpr hk
  rw [hpos, sorted_perm_unique s₁ s₂ hperm w₁ w₂ hk₁]

/-- Corollary for whole argument lists: a permutation of a call's arguments that keeps the
positional ones in place (same filtered sublist) yields the same executable result. -/
theorem prioritize_perm {α} (a₁ a₂ : List (Arg α)) (hperm : a₁.Perm a₂)
    (hpos : positional a₁ = positional a₂) (hk : ((named a₁).map keyOf).Nodup) :
    prioritize a₁ = prioritize a₂ :=
  kwargs_order_irrelevant a₁ a₂ _ _ hpos (hperm.filter _) hk
    (prioritize_is_prioritized a₁) (prioritize_is_prioritized a₂)

/-- non-vacuity: three keyword arguments in rotated order around a positional one -/
example :
    let a₁ : List (Arg Nat) := [⟨none, 0⟩, ⟨some ['b', ':'], 1⟩, ⟨some ['c', ':'], 2⟩, ⟨some ['a', ':'], 3⟩]
    let a₂ : List (Arg Nat) := [⟨some ['c', ':'], 2⟩, ⟨none, 0⟩, ⟨some ['a', ':'], 3⟩, ⟨some ['b', ':'], 1⟩]
    positional a₁ = positional a₂ ∧ ((named a₁).map keyOf).Nodup ∧ prioritize a₁ = prioritize a₂ := by decide

end RubyTi.C14
