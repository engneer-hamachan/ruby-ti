import RubyTi.Model.Suggest

/-!
# C23 — completion lists exactly the methods the receiver can answer (soundness of the filter)

On the model of `isSuggest` / `isParentClass`, for every signature table entry, every inheritance
graph (cyclic ones included), every captured target and any fuel:
* `parent_sound`: if the ancestor walk accepts a signature then the signature's static flag is
  the receiver's, it is not `new`, and its class is the start class or an ancestor reachable
  through `ClassInheritanceMap` (frame compared after the Builtin normalisation);
* `suggest_sound`: a suggested signature is never of class "" or `Kernel`, is private only if the
  target describes the cursor's context (it is not an object value) and the signature belongs to
  the class of that context, and is accepted for one of four reasons: same defining class and
  static flag, ancestor of the defining class (both only for context targets), the receiver's
  class itself, or an ancestor of the receiver's class — the last two only when the static flags agree;
* `object_receiver_sound`: for an object-valued receiver nothing private and nothing of the wrong
  kind is listed.
So no method that only unrelated classes define and no private method of another class is ever
listed. *Completeness* is refuted for Object/Kernel methods (class "" is rejected up front): they
are listed only through the lower-case-identifier rule (`kernelRule`). Which `T` a row
captures is evaluator behaviour, checked end-to-end.
-/
namespace RubyTi.C23
open RubyTi RubyTi.Frame RubyTi.Inherit RubyTi.Sig RubyTi.Suggest

/-- `c` is the start class or an ancestor of it in the inheritance map (frames Builtin-normalised) -/
inductive Reach (g : Inh) (bc : List Str) : Str → Str → Str → Str → Prop where
  | refl (f c : Str) : Reach g bc f c (normFrame bc f c) c
  | step (f c : Str) (p : Node) (f' c' : Str) :
      p ∈ parentsOf g (normFrame bc f c) c → Reach g bc p.frame p.cls f' c' → Reach g bc f c f' c'

def Sound (g : Inh) (bc : List Str) (sig : Sig) (frame cls : Str) (st : Bool) : Prop :=
  sig.isStatic = st ∧ sig.method ≠ NEW ∧ Reach g bc frame cls sig.frame sig.cls

theorem isParentList_sound (g : Inh) (bc : List Str) (sig : Sig) (st : Bool) (fuel : Nat)
    (hw : ∀ frame cls ext inc seen, (isParent fuel g bc sig frame cls st ext inc seen).1 = true → Sound g bc sig frame cls st) :
    ∀ ps seen, (isParentList fuel g bc sig ps st seen).1 = true → ∃ p ∈ ps, Sound g bc sig p.frame p.cls st := by
  intro ps
  induction ps with
  | nil => intro seen h; simp [isParentList] at h
  | cons p rest ih =>
    intro seen h
    rw [isParentList] at h
    -- the walk answers for `p`, or goes on with the entered-set `p` leaves
    rcases hp : isParent fuel g bc sig p.frame p.cls st p.isExtend p.isInclude seen with ⟨_ | _, s⟩ <;> rw [hp] at h
    · obtain ⟨q, hq, hs⟩ := ih s h
      exact ⟨q, List.mem_cons_of_mem p hq, hs⟩
    · exact ⟨p, List.mem_cons_self, hw _ _ _ _ _ (by rw [hp])⟩

/-- the ancestor walk only accepts the start class or a reachable ancestor, with matching static flag -/
theorem parent_sound (g : Inh) (bc : List Str) (sig : Sig) (st : Bool) (fuel : Nat) :
    ∀ frame cls ext inc seen, (isParent fuel g bc sig frame cls st ext inc seen).1 = true → Sound g bc sig frame cls st := by
  induction fuel with
  | zero => intro frame cls ext inc seen h; simp [isParent] at h
  | succ n ih =>
    intro frame cls ext inc seen h
    -- `.1` of the if-chain of `isParent` as a Boolean formula: five guards, then "this class" or "a parent's"
    simp [isParent, apply_ite Prod.fst] at h
    obtain ⟨-, -, -, hst, hnew, heq | hl⟩ := h
    · exact ⟨hst, hnew, by rw [heq.1, heq.2]; exact Reach.refl frame cls⟩
    · obtain ⟨p, hp, hs⟩ := isParentList_sound g bc sig st n ih _ _ hl
      exact ⟨hst, hnew, Reach.step frame cls p _ _ hp hs.2.2⟩

/-- **Soundness of the completion filter.** -/
theorem suggest_sound (fuel : Nat) (g : Inh) (bc : List Str) (t : Target) (sig : Sig)
    (h : isSuggest fuel g bc t sig = true) :
    sig.cls ≠ [] ∧ sig.cls ≠ KERNEL ∧ (sig.isPrivate = true → t.isContext = true ∧ sig.cls = t.definedClass) ∧
    ( (t.isContext = true ∧ sig.cls = t.definedClass ∧ sig.isStatic = t.isStatic) ∨
      (t.isContext = true ∧ Sound g bc sig t.definedFrame t.definedClass t.isStatic) ∨
      (sig.isStatic = t.isStaticTarget ∧ sig.cls = t.objectClass) ∨
      Sound g bc sig t.frame t.objectClass t.isStaticTarget ) := by
  -- the if-chain of `isSuggest` as a Boolean formula: four guards and a disjunction of four reasons
  simp [isSuggest] at h
  obtain ⟨h1, h2, -, h4, h5⟩ := h
  refine ⟨h1, h2, fun hp => h4.resolve_left (by simp [hp]), ?_⟩
  rcases h5 with ⟨⟨a, b⟩, c⟩ | ⟨a, b⟩ | ⟨a, b | b⟩
  · exact .inl ⟨a, b, c⟩
  · exact .inr (.inl ⟨a, parent_sound g bc sig _ fuel _ _ _ _ _ b⟩)
  · exact .inr (.inr (.inl ⟨a.symm, b⟩))
  · exact .inr (.inr (.inr (parent_sound g bc sig _ fuel _ _ _ _ _ b)))

/-- a receiver that is an object value (`d = Dog.new(1)`, `d.`): only methods of the receiver's
kind, of its class or a reachable ancestor, and never a private one -/
theorem object_receiver_sound (fuel : Nat) (g : Inh) (bc : List Str) (t : Target) (sig : Sig)
    (hc : t.isContext = false) (h : isSuggest fuel g bc t sig = true) :
    sig.isPrivate = false ∧ sig.isStatic = t.isStaticTarget ∧
    (sig.cls = t.objectClass ∨ Reach g bc t.frame t.objectClass sig.frame sig.cls) := by
  obtain ⟨-, -, hp, hr⟩ := suggest_sound fuel g bc t sig h
  -- a receiver that is not a context leaves the last two reasons, and no private signature
  simp only [hc, Bool.false_eq_true, false_and, false_or] at hp hr
  refine ⟨by simpa using hp, ?_⟩
  rcases hr with ⟨h1, h2⟩ | h1
  · exact ⟨h1, .inl h2⟩
  · exact ⟨h1.1, .inr h1.2.2⟩

/-- the refuted completeness: a signature of class "" (an Object method) is never suggested -/
theorem object_methods_never_suggested (fuel : Nat) (g : Inh) (bc : List Str) (t : Target) (sig : Sig)
    (h : sig.cls = []) : isSuggest fuel g bc t sig = false := by
  simp [isSuggest, h]

end RubyTi.C23
