import RubyTi.Model.Rounds

/-!
# C18 — preloaded files act like a prefix whose diagnostics are hidden (output-assembly half)

`no_preload_lines`: whatever the evaluations of the preloaded files leave behind — errors,
articles under their own file names — every line printed for the target names the target file:
diagnostics come only from the target parser's `Errors`, hints only from articles recorded by a
parser of the target file. The facts about main.go this rests on (`isLoad` returns before any
output; preload passes `isLoad = true`; hints are filtered by file; preloads run before the
target) are re-extracted from the source on every run (`main_facts`).
Equality with the concatenated program depends on the statement
evaluator (parameter of the model); it is checked end-to-end by splitting programs at every
top-level boundary into 1-3 preload files plus a target.
-/
namespace RubyTi.C18
open RubyTi RubyTi.Rounds

/-- **No line refers to a preloaded file.** -/
theorem no_preload_lines (preloads : List Eval) (target : Eval) (withHints : Bool) :
    ∀ l ∈ checkRound preloads target withHints, l.file = target.file := by
  intro l hl
  simp only [checkRound, targetOutput, List.mem_append, List.mem_map] at hl
  rcases hl with hl | ⟨e, _, rfl⟩
  · cases withHints
    · simp at hl
    · obtain ⟨a, _, rfl⟩ := List.mem_map.mp hl
      rfl
  · rfl

/-- diagnostics are exactly the target parser's errors, in order, whatever was preloaded -/
theorem diagnostics_are_targets (preloads : List Eval) (target : Eval) :
    checkRound preloads target false = target.errors.map (fun e => Line.diag target.file e.1 e.2) := by
  simp [checkRound, targetOutput]

/-- hints of a preloaded file never appear even if it defines methods (they are recorded under the
preloaded file's name) -/
theorem preload_articles_hidden (preloads : List Eval) (target : Eval)
    (hp : ∀ p ∈ preloads, ∀ a ∈ p.articles, a.1 ≠ target.file) :
    checkRound preloads target true = checkRound [] target true := by
  simp only [checkRound, targetOutput, List.map_nil, List.flatten_nil, List.nil_append, ite_true, List.filter_append]
  have : (preloads.map (·.articles)).flatten.filter (fun a => a.1 == target.file) = [] := by
    apply List.filter_eq_nil_iff.mpr
    intro a ha
    simp only [List.mem_flatten, List.mem_map] at ha
    obtain ⟨as, ⟨p, hp', rfl⟩, ha'⟩ := ha
    simpa using hp p hp' a ha'
  rw [this]; rfl

/-- the syntactic facts about main.go the model rests on -/
theorem main_facts :
    Gen.mainLoadReturnsBeforeOutput = true ∧ Gen.mainHintsFilteredByFile = true ∧ Gen.mainPreloadIsLoad = true ∧
    Gen.mainTargetIsNotLoad = true ∧ Gen.mainPreloadBeforeTarget = true ∧ Gen.mainCleanBeforePreload = true := by decide

/-- non-vacuity -/
example : checkRound [⟨"p.rb".toList, [(1, "boom".toList)], [("p.rb".toList, 1, "sig".toList)]⟩]
    ⟨"m.rb".toList, [(2, "err".toList)], [("m.rb".toList, 3, "own".toList)]⟩ true =
    [Line.hint "m.rb".toList 3 "own".toList, Line.diag "m.rb".toList 2 "err".toList] := by decide +kernel

end RubyTi.C18
