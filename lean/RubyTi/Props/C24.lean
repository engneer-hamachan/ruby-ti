import RubyTi.Basic
import RubyTi.Gen.MainFacts

/-!
# C24 — the LLM navigator's call graph matches the source (recording model)

A call expression is *evaluated* many times: once per round (define, collect, inference, check)
and additionally on a look-ahead copy of the parser whenever it occurs in the condition of an
`if` / `elsif` / `unless` / postfix conditional. `NewMethodEvaluator` appends a call point only
when the round is `check` and the parser is not a look-ahead copy (after the `fix:` commit).
`callers_count`: for **every** schedule of evaluations in which each call site is evaluated for
real exactly once in the check round — and any number of times in other rounds or on look-ahead
copies, in any interleaving — the log holds exactly one entry per call site, with its row and
enclosing method/class; hence `total callers` of a method is the number of its call sites.
The guard itself and the marking of the copy are re-extracted from the source on every run.
-/
namespace RubyTi.C24
open RubyTi

abbrev Str := List Char

structure CallSite where
  key : Str            -- frame ++ class ++ method of the callee as resolved at the call
  row : Nat
  callerClass : Str
  callerMethod : Str
  deriving Repr, DecidableEq

inductive Round where | define | collect | inference | check
  deriving Repr, DecidableEq

/-- one evaluation of a call expression -/
structure Evaluation where
  site : CallSite
  round : Round
  lookAhead : Bool
  deriving Repr, DecidableEq

def records (e : Evaluation) : Bool := e.round == .check && !e.lookAhead

/-- NewMethodEvaluator's effect on base.MethodCallPoint over a whole run -/
def log (evals : List Evaluation) : List CallSite := (evals.filter records).map (·.site)

/-- **One entry per call site.** If the evaluations that record are, as a list of sites, a
permutation of the program's call sites (each evaluated for real exactly once in the check
round), then for every callee the number of logged callers is the number of its call sites. -/
theorem callers_count (sites : List CallSite) (evals : List Evaluation)
    (h : ((evals.filter records).map (·.site)).Perm sites) (k : Str) :
    ((log evals).filter (·.key == k)).length = (sites.filter (·.key == k)).length := by
  unfold log
  exact (h.filter _).length_eq

/-- evaluations in other rounds and on look-ahead copies never add an entry, wherever they are interleaved -/
theorem non_recording_ignored (a b : List Evaluation) (e : Evaluation) (he : records e = false) :
    log (a ++ e :: b) = log (a ++ b) := by
  simp [log, List.filter_append, he]

/-- each logged entry carries the row and enclosing method/class of its call site -/
theorem log_entries_are_sites (evals : List Evaluation) :
    ∀ c ∈ log evals, ∃ e ∈ evals, e.site = c ∧ e.round = .check ∧ e.lookAhead = false := by
  intro c hc
  simp only [log, List.mem_map, List.mem_filter] at hc
  obtain ⟨e, ⟨he, hr⟩, rfl⟩ := hc
  exact ⟨e, he, rfl, by simpa [records] using hr⟩

/-- the guard in NewMethodEvaluator and the marking of the look-ahead copy, re-extracted each run -/
theorem recording_guard_facts :
    Gen.callPointGuarded = true ∧ Gen.callPointWriters = 1 ∧ Gen.lookAheadMarkedOnCopy = true := by decide

/-- non-vacuity: a call in an `if` condition is evaluated 4 + 4 times and logged once -/
example :
    let s : CallSite := ⟨"ok?".toList, 11, [], "driver".toList⟩
    let evals := [Round.define, .collect, .inference, .check].flatMap fun r => [⟨s, r, true⟩, ⟨s, r, false⟩]
    log evals = [s] := by decide +kernel

end RubyTi.C24
