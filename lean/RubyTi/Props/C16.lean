import RubyTi.Proofs.InheritLemmas

/-!
# C16 — user classes: resolution, inheritance and visibility (lookup core)

On the model of `GetMethodT` / `getParentMethodT` over the Go-map models of `TFrame` and
`ClassInheritanceMap`, for every method table, every inheritance graph (cyclic ones included),
every class list and every amount of fuel:
* `resolved_is_asked`: whatever definition is resolved is a definition of the *asked method
  name* with the *asked privacy flag* — in particular a call with an explicit receiver
  (`isPrivate = false`) never resolves to a method stored as private (`private_hidden`);
* `direct_wins`: a method defined in the class itself is resolved to that definition, whatever
  its ancestors define;
* `superclass_found`: a method defined in the direct superclass (ordinary edge) is found when the
  class does not define it; `include_found` the same for an included module (instance lookups);
* `undefined_reported`: if no key with that method name exists at all, resolution fails (the
  evaluator then reports `… is not defined`).
`walk` terminates by construction (recursion on fuel and, at equal fuel, on the parent list); that the
entered-set makes `|classes| + 1` fuel sufficient is exercised by the cyclic programs of C02.
Further down: explicit ancestors registered through `AddParentNode` precede the implicit Object ancestor
(`explicit_ancestors_before_object`, `superclass_override_wins`), and the ancestor walk of the protected check
(`protected_from_child`, `protected_from_descendant` along a superclass chain, `isAncestor_sound`,
`protected_outsider_reported`).
-/
namespace RubyTi.C16
open RubyTi RubyTi.Frame RubyTi.Inherit

theorem walkParents_keys (tbl : Methods) (g : Inh) (bc : List Str) (method : Str) (isPrivate isStatic : Bool) (fuel : Nat)
    (hw : ∀ frame cls seen, keyOk tbl method isPrivate (walk fuel tbl g bc frame cls method isPrivate isStatic seen).1) :
    ∀ ps seen, keyOk tbl method isPrivate (walkParents fuel tbl g bc ps method isPrivate isStatic seen).1 := by
  intro ps
  induction ps with
  | nil => intro seen; simp only [walkParents]; exact keyOk_none
  | cons p rest ih =>
    intro seen
    simp only [walkParents, apply_ite Prod.fst]
    refine keyOk_ite (fun _ => ?ext) (keyOk_ite (fun _ => ?inc) ?ord)
    case ext => exact keyOk_ite (fun h => keyOk_some rfl rfl (Bool.and_eq_true_iff.mp h).1) (ih _)
    case inc => exact keyOk_ite (fun h => keyOk_some rfl rfl (Bool.and_eq_true_iff.mp h).1) (ih _)
    case ord => exact keyOk_ite keyOk_ordinaryKey (keyOk_walk_orElse (hw p.frame p.cls seen) ih)

theorem walk_keys (tbl : Methods) (g : Inh) (bc : List Str) (method : Str) (isPrivate isStatic : Bool) (fuel : Nat) :
    ∀ frame cls seen, keyOk tbl method isPrivate (walk fuel tbl g bc frame cls method isPrivate isStatic seen).1 := by
  induction fuel with
  | zero => intro frame cls seen; simp only [walk]; exact keyOk_none
  | succ n ihn =>
    intro frame cls seen
    simp only [walk, apply_ite Prod.fst]
    exact keyOk_ite (fun _ => keyOk_none) (walkParents_keys tbl g bc method isPrivate isStatic n ihn _ _)

/-- whatever is resolved is an existing definition of the asked method with the asked privacy flag -/
theorem resolved_is_asked (fuel : Nat) (tbl : Methods) (g : Inh) (bc : List Str) (frame cls method : Str) (isPrivate : Bool)
    (k : FrameKey) (h : getMethodT fuel tbl g bc frame cls method isPrivate = some k) :
    k.targetMethod = method ∧ k.isPrivate = isPrivate ∧ has tbl k = true := by
  have hw := walk_keys tbl g bc method isPrivate false fuel
  suffices hk : keyOk tbl method isPrivate (getMethodT fuel tbl g bc frame cls method isPrivate) from hk k h
  unfold getMethodT
  -- the class's frame, then frame `Builtin`: the own definition, else what the walk finds; last `Builtin::<frame>`
  refine keyOk_ite (keyOk_some rfl rfl) (keyOk_orElse (hw _ _ _) ?_)
  refine keyOk_ite (keyOk_some rfl rfl) (keyOk_orElse (hw _ _ _) ?_)
  exact keyOk_ite (fun h => keyOk_some rfl rfl (Bool.and_eq_true_iff.mp h).2) keyOk_none

/-- a call with an explicit receiver never resolves to a private definition -/
theorem private_hidden (fuel : Nat) (tbl : Methods) (g : Inh) (bc : List Str) (frame cls method : Str) (k : FrameKey)
    (h : getMethodT fuel tbl g bc frame cls method false = some k) : k.isPrivate = false :=
  (resolved_is_asked fuel tbl g bc frame cls method false k h).2.1

/-- the class's own definition wins -/
theorem direct_wins (fuel : Nat) (tbl : Methods) (g : Inh) (bc : List Str) (frame cls method : Str) (isPrivate : Bool)
    (h : has tbl (methodKey frame cls method isPrivate) = true) :
    getMethodT fuel tbl g bc frame cls method isPrivate = some (methodKey frame cls method isPrivate) := by
  simp [getMethodT, h]

/-- a method of the direct superclass is found when the class itself does not define it -/
theorem superclass_found (fuel : Nat) (tbl : Methods) (g : Inh) (bc : List Str) (frame cls method : Str) (isPrivate : Bool)
    (pf pc : Str) (rest : List Node)
    (hself : has tbl (methodKey frame cls method isPrivate) = false)
    (hg : parentsOf g frame cls = { frame := pf, cls := pc } :: rest)
    (hp : has tbl (methodKey pf pc method isPrivate) = true) :
    getMethodT (fuel + 1) tbl g bc frame cls method isPrivate = some (methodKey pf pc method isPrivate) := by
  simp [getMethodT, hself, walk, hg, walkParents, hp, ordinaryKey]

/-- class methods: the own definition wins, and a direct superclass's class method is found -/
theorem class_method_direct_wins (fuel : Nat) (tbl : Methods) (g : Inh) (bc : List Str) (frame cls method : Str) (isPrivate : Bool)
    (h : has tbl (classMethodKey frame cls method isPrivate) = true) :
    getClassMethodT fuel tbl g bc frame cls method isPrivate = some (classMethodKey frame cls method isPrivate) := by
  simp [getClassMethodT, h]

theorem class_method_superclass_found (fuel : Nat) (tbl : Methods) (g : Inh) (bc : List Str) (frame cls method : Str) (isPrivate : Bool)
    (pf pc : Str) (rest : List Node)
    (hself : has tbl (classMethodKey frame cls method isPrivate) = false)
    (hb : has tbl (classMethodKey "Builtin".toList cls method isPrivate) = false)
    (hg : parentsOf g frame cls = { frame := pf, cls := pc } :: rest)
    (hp : has tbl (classMethodKey pf pc method isPrivate) = true) :
    getClassMethodT (fuel + 1) tbl g bc frame cls method isPrivate = some (classMethodKey pf pc method isPrivate) := by
  simp only [getClassMethodT, hself, hb, walk, hg, walkParents, hp, ordinaryKey, Bool.false_eq_true, ↓reduceIte,
    List.contains_nil]

/-- an included module's method is found for instance lookups -/
theorem include_found (fuel : Nat) (tbl : Methods) (g : Inh) (bc : List Str) (frame cls method : Str) (isPrivate : Bool)
    (mf mc : Str) (rest : List Node)
    (hself : has tbl (methodKey frame cls method isPrivate) = false)
    (hg : parentsOf g frame cls = { frame := mf, cls := mc, isInclude := true } :: rest)
    (hp : has tbl (methodKey (builtinFrame bc { frame := mf, cls := mc, isInclude := true }) mc method isPrivate) = true) :
    getMethodT (fuel + 1) tbl g bc frame cls method isPrivate =
      some (methodKey (builtinFrame bc { frame := mf, cls := mc, isInclude := true }) mc method isPrivate) := by
  simp [getMethodT, hself, walk, hg, walkParents, hp]

/-- nothing defines the method under that privacy: resolution fails, for every graph and fuel -/
theorem undefined_reported (fuel : Nat) (tbl : Methods) (g : Inh) (bc : List Str) (frame cls method : Str) (isPrivate : Bool)
    (hnone : ∀ k : FrameKey, k.targetMethod = method → k.isPrivate = isPrivate → has tbl k = false) :
    getMethodT fuel tbl g bc frame cls method isPrivate = none := by
  cases h : getMethodT fuel tbl g bc frame cls method isPrivate with
  | none => rfl
  | some k =>
    obtain ⟨hm, hp, hh⟩ := resolved_is_asked fuel tbl g bc frame cls method isPrivate k h
    rw [hnone k hm hp] at hh
    cases hh


/-! ### Ancestor order: Object is searched last -/

theorem addParent_before_object (xs : List Node) (p : Node) (hx : ∀ x ∈ xs, (x == objectNode) = false) :
    addParent (xs ++ [objectNode]) p = xs ++ [p, objectNode] := by
  induction xs with
  | nil => simp [addParent]
  | cons x rest ih =>
    obtain ⟨hx0, hrest⟩ := List.forall_mem_cons.mp hx
    simp only [List.cons_append, addParent, hx0, ih hrest]
    rfl

/-- **Registration order is search order, with Object last**: a class registers Object first and then its
explicit ancestors one by one (`AddParentNode`); the resulting list is the explicit ancestors in
registration order followed by Object — for every number of ancestors. -/
theorem explicit_ancestors_before_object (ps : List Node) (hp : ∀ x ∈ ps, (x == objectNode) = false) :
    ps.foldl addParent [objectNode] = ps ++ [objectNode] := by
  -- `done`: the ancestors registered so far; the hypothesis speaks of `done ++ ps` as a whole, so that it is the
  -- same hypothesis after `p` has moved from `ps` to `done`
  suffices h : ∀ done, (∀ x ∈ done ++ ps, (x == objectNode) = false) →
      ps.foldl addParent (done ++ [objectNode]) = done ++ ps ++ [objectNode] from h [] hp
  clear hp
  induction ps with
  | nil => intro done _; simp
  | cons p rest ih =>
    intro done h
    rw [List.foldl_cons, addParent_before_object done p fun x hx => h x (List.mem_append_left _ hx),
      List.append_cons done p [objectNode]]
    rw [List.append_cons done p rest] at h ⊢
    exact ih (done ++ [p]) h

/-- **An override in the superclass wins over Object's method**: for a class that registered Object and then
its superclass, a method the superclass defines is resolved to the superclass's definition — whatever
Object (frame `Builtin`, class `""`) defines under the same name. -/
theorem superclass_override_wins (fuel : Nat) (tbl : Methods) (g : Inh) (bc : List Str) (frame cls method : Str) (isPrivate : Bool)
    (pf pc : Str)
    (hne : (({ frame := pf, cls := pc } : Node) == objectNode) = false)
    (hself : has tbl (methodKey frame cls method isPrivate) = false)
    (hg : parentsOf g frame cls = [({ frame := pf, cls := pc } : Node)].foldl addParent [objectNode])
    (hp : has tbl (methodKey pf pc method isPrivate) = true) :
    getMethodT (fuel + 1) tbl g bc frame cls method isPrivate = some (methodKey pf pc method isPrivate) := by
  rw [explicit_ancestors_before_object _ (List.forall_mem_singleton.mpr hne)] at hg
  exact superclass_found fuel tbl g bc frame cls method isPrivate pf pc [objectNode] hself hg hp

/-- non-vacuity: superclass and an included module registered after Object end up ahead of it -/
example :
    let sup : Node := { frame := [], cls := "Pa".toList, isInclude := false, isExtend := false }
    let inc : Node := { frame := [], cls := "Mo".toList, isInclude := true, isExtend := false }
    [sup, inc].foldl addParent [objectNode] = [sup, inc, objectNode] := by decide


/-! ### Protected calls: the ancestor walk -/

theorem anyAncestor_mem (fuel : Nat) (g : Inh) (ps : List Node) (target : Node) (seen : List Node) (h : target ∈ ps) :
    (anyAncestor fuel g ps target seen).1 = true := by
  induction ps generalizing seen with
  | nil => simp at h
  | cons p rest ih =>
    rw [anyAncestor_cons_fst]
    rcases List.mem_cons.mp h with rfl | h
    · simp
    · simp [ih _ h]

/-- **A protected method may be called from a direct subclass**: when the defining class is among the parents of
the calling class, the check passes — whatever else the graph holds (cycles included). -/
theorem protected_from_child (fuel : Nat) (g : Inh) (caller defined : Node)
    (h : defined ∈ parentsOfNode g caller) : protectedOk (fuel + 1) g caller defined = true := by
  simp [protectedOk, isAncestor, anyAncestor_mem fuel g _ defined [caller] h]

/-- the class itself may call its protected methods on other instances -/
theorem protected_from_self (fuel : Nat) (g : Inh) (c : Node) : protectedOk fuel g c c = true := by
  simp [protectedOk]

/-- `c₀ → c₁ → … → target`: every class of the chain has the next one as its FIRST parent (what a class gets
from `class C < B`: `AddParentNode` puts the superclass ahead of Object and of later includes) -/
def linked (g : Inh) : List Node → Prop
  | a :: b :: rest => (∃ more, parentsOfNode g a = b :: more) ∧ linked g (b :: rest)
  | _ => True

/-- **A protected method may be called from a descendant at any depth** (superclass chain): for a chain
`c → d₁ → … → dₙ → target` of distinct classes, none of them entered before, the walk finds `target` — for every
chain length, given at least that much fuel. -/
theorem ancestor_along_chain (g : Inh) (target : Node) :
    ∀ (chain : List Node) (c : Node) (seen : List Node) (fuel : Nat),
      linked g (c :: chain ++ [target]) → (c :: chain).Nodup → (∀ x ∈ c :: chain, x ∉ seen) →
      chain.length + 1 ≤ fuel → (isAncestor fuel g c target seen).1 = true := by
  intro chain
  induction chain with
  | nil =>
    intro c seen fuel hl _ hs hf
    obtain ⟨f, rfl⟩ := Nat.exists_eq_add_one_of_ne_zero (Nat.ne_zero_of_lt hf)
    obtain ⟨more, hp⟩ : ∃ more, parentsOfNode g c = target :: more := hl.1
    exact isAncestor_first_parent hp (hs c (by simp)) (.inl rfl)
  | cons d rest ih =>
    intro c seen fuel hl hn hs hf
    obtain ⟨f, rfl⟩ := Nat.exists_eq_add_one_of_ne_zero (Nat.ne_zero_of_lt hf)
    obtain ⟨⟨more, hp⟩, hl'⟩ : (∃ more, parentsOfNode g c = d :: more) ∧ linked g (d :: rest ++ [target]) := hl
    obtain ⟨hc, hn'⟩ := List.nodup_cons.mp hn
    -- below `d` the entered-set has gained `c`, which the rest of the chain avoids since the chain is duplicate-free
    refine isAncestor_first_parent hp (hs c (by simp)) (.inr (ih d (c :: seen) f hl' hn' ?_ (Nat.le_of_succ_le_succ hf)))
    intro x hx
    exact List.not_mem_cons_of_ne_of_not_mem (ne_of_mem_of_not_mem hx hc) (hs x (List.mem_cons_of_mem _ hx))

/-- corollary for the check itself: a descendant at any depth passes the protected check -/
theorem protected_from_descendant (g : Inh) (caller target : Node) (chain : List Node)
    (hl : linked g (caller :: chain ++ [target])) (hn : (caller :: chain).Nodup) :
    protectedOk (chain.length + 1) g caller target = true := by
  simp [protectedOk, ancestor_along_chain g target chain caller [] (chain.length + 1) hl hn (by simp) (Nat.le_refl _)]

/-- `b` is reachable from `a` through one or more parent edges -/
inductive Reach (g : Inh) : Node → Node → Prop
  | step {a p : Node} : p ∈ parentsOfNode g a → Reach g a p
  | trans {a p b : Node} : p ∈ parentsOfNode g a → Reach g p b → Reach g a b

theorem anyAncestor_zero (g : Inh) (t : Node) (ps : List Node) (seen : List Node)
    (h : (anyAncestor 0 g ps t seen).1 = true) : ∃ p ∈ ps, p = t := by
  obtain ⟨p, hp, rfl | ⟨s, hs⟩⟩ := anyAncestor_true h
  · exact ⟨p, hp, rfl⟩
  · simp [isAncestor] at hs

/-- **The walk accepts only real ancestors** (soundness, every graph, every fuel, every entered-set): when
`isAncestorNode` answers true, the target is reachable from the calling class through parent edges. -/
theorem isAncestor_sound (g : Inh) (t : Node) : ∀ (fuel : Nat),
    (∀ c seen, (isAncestor fuel g c t seen).1 = true → Reach g c t) ∧
    (∀ ps seen, (anyAncestor fuel g ps t seen).1 = true → ∃ p ∈ ps, p = t ∨ Reach g p t) := by
  intro fuel
  -- the list half follows from the node half at the same fuel
  suffices h : ∀ c seen, (isAncestor fuel g c t seen).1 = true → Reach g c t by
    refine ⟨h, fun ps seen hps => ?_⟩
    obtain ⟨p, hp, e | ⟨s, hs⟩⟩ := anyAncestor_true hps
    · exact ⟨p, hp, .inl e⟩
    · exact ⟨p, hp, .inr (h p s hs)⟩
  induction fuel with
  | zero => intro c seen h; simp [isAncestor] at h
  | succ n ih =>
    intro c seen h
    rw [isAncestor_succ_fst] at h
    obtain ⟨p, hp, rfl | ⟨s, hs⟩⟩ := anyAncestor_true (Bool.and_eq_true_iff.mp h).2
    · exact .step hp
    · exact .trans hp (ih p s hs)

/-- **A protected method called from outside the hierarchy is reported**: if the calling class is not the
defining class and the defining class is not reachable from it, the check fails — whatever the fuel. -/
theorem protected_outsider_reported (fuel : Nat) (g : Inh) (caller defined : Node)
    (hne : caller ≠ defined) (hun : ¬ Reach g caller defined) : protectedOk fuel g caller defined = false := by
  simp only [protectedOk]
  have h1 : (caller == defined) = false := by simpa using hne
  cases h : (isAncestor fuel g caller defined []).1 with
  | false => simp [h1]
  | true => exact absurd ((isAncestor_sound g defined fuel).1 caller [] h) hun

/-- non-vacuity: `class C < B`, `class B < A` (each also with the implicit Object ancestor) is a linked chain of distinct classes -/
example :
    let n := fun (c : String) => ({ frame := [], cls := c.toList } : Node)
    let g : Inh := [(([], "C".toList), [n "B", objectNode]), (([], "B".toList), [n "A", objectNode])]
    linked g (n "C" :: [n "B"] ++ [n "A"]) ∧ (n "C" :: [n "B"]).Nodup := by
  simp [linked, parentsOfNode, parentsOf, Frame.lookup]

/-! tests on one concrete graph (labelled as tests): a grandchild passes, an outsider does not, and a cyclic
declaration (`class L < R`, `class R < L`) ends the walk -/
def tNode (c : String) : Node := { frame := [], cls := c.toList }
def tGraph : Inh := [(([], "C".toList), [tNode "B", objectNode]), (([], "B".toList), [tNode "A", objectNode]),
                     (([], "L".toList), [tNode "R"]), (([], "R".toList), [tNode "L"])]
section
attribute [local simp] protectedOk isAncestor anyAncestor parentsOfNode parentsOf tGraph tNode Frame.lookup objectNode
example : protectedOk 4 tGraph (tNode "C") (tNode "A") = true := by simp
example : protectedOk 4 tGraph (tNode "E") (tNode "A") = false := by simp
example : protectedOk 4 tGraph (tNode "L") (tNode "A") = false := by simp
end

end RubyTi.C16
